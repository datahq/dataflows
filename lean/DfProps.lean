import DfProps.Util
import DfProps.C10
import DfProps.C15
import DfProps.C16
import DfProps.C17
import DfProps.C14
import DfProps.C01
import DfProps.C04
import DfProps.C05
import DfProps.C06
import DfProps.C07
import DfProps.C08
import DfProps.C19
import DfProps.C18
import DfProps.C20
import DfProps.C12
import DfProps.C11
import DfProps.C13
import DfProps.C09
import DfProps.C03
import DfProps.C02
import DfProps.C13Chain
import DfProps.C15b
import DfProps.C02b
import DfProps.C02c
import DfProps.C02d
import DfProps.C14b
import DfProps.C02e
import DfProps.C02f
import DfProps.Skeleton
import DfProps.TieBase
import DfProps.TieLoop
import DfProps.TieQueue
import DfProps.TieJoin
import DfProps.TieMatcher
import DfProps.TieValidate
import DfProps.TieRows
import DfProps.TieDispatch
import DfProps.TieVLoop
import DfProps.TieVModel
import DfProps.TieLoad
import DfProps.TieUnpivot
import DfProps.TieFlow
import DfProps.TieRow
import DfProps.TieFields
import DfProps.TieDriver
import DfProps.TieEjson
import DfProps.TieCond
import DfProps.TieStrip
import DfProps.TieSort
import DfProps.TieConcat
import DfProps.TieDeleteSchema
import DfProps.TieSelectSchema
import DfProps.TieComputed
import DfProps.TieDuplicate
import DfProps.TieUnpivotModel
import DfProps.TieSortProc
import DfProps.TieSql
import DfProps.TieConcatMap
import DfProps.TieFetcher
import DfProps.TieProducer
import DfProps.TieWorker
import DfProps.TieCollector
