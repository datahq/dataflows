/-! The model has the insertion-ordered dictionary with string keys four times over (`Row`, the file system of `Checkpoint`,
the attributes of `Stats`, the index of `Join`), each time as a pair `get` / `put` with the same defining equations.  What
the equations give is proved here once; each copy states it for its own pair, the equations by `rfl`. -/

namespace Df

theorem get_put_of_eqns {β : Type} {get : List (String × β) → String → Option β} {put : List (String × β) → String → β → List (String × β)}
    (gcons : ∀ k' v' l q, get ((k', v') :: l) q = if k' = q then some v' else get l q)
    (pnil : ∀ k v, put [] k v = [(k, v)])
    (pcons : ∀ k' v' l k v, put ((k', v') :: l) k v = if k' = k then (k, v) :: l else (k', v') :: put l k v)
    (l : List (String × β)) (k q : String) (v : β) : get (put l k v) q = if k = q then some v else get l q := by
  induction l with
  | nil => rw [pnil, gcons]
  | cons e l ih =>
    obtain ⟨k', v'⟩ := e
    rw [pcons, gcons]
    by_cases h : k' = k
    · subst h; rw [if_pos rfl, gcons]; split <;> rfl
    · rw [if_neg h, gcons, ih]
      by_cases hq : k = q
      · simp only [if_pos hq, if_neg (hq ▸ h : ¬k' = q)]
      · simp only [if_neg hq]

end Df
