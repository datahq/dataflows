import DfModel.Engine
import DfModel.Link

/-!
# C01 — lazy chained execution = step-by-step evaluation

`C01_lazy_eq_staged_outputs`, `C01_lazy_eq_staged_effects`: for every chain of row-phase machines and every input event stream,
the lazy (interleaved, one event at a time through the whole chain) run and the staged run
(each step on the fully materialised output of the previous one) deliver the same events
and every machine performs the same effects in the same order — only the interleaving of
*different* machines' effects differs.  No bound on chain length, stream length or state.
-/

namespace Df.Engine

variable {α β γ ε : Type}

theorem runFrom_feed_append (m : Mealy α β ε) (s : m.σ) (xs ys : List α) :
    runFrom m s (xs ++ ys) =
      ((feed m s xs).2.1 ++ (runFrom m (feed m s xs).1 ys).1,
       (feed m s xs).2.2 ++ (runFrom m (feed m s xs).1 ys).2) := by
  induction xs generalizing s with
  | nil => simp [feed]
  | cons a as ih =>
    simp only [List.cons_append, runFrom, feed, ih, List.append_assoc]

theorem runFrom_comp_nil (m1 : Mealy α β ε) (m2 : Mealy β γ ε) (s1 : m1.σ) (s2 : m2.σ) :
    runFrom (comp m1 m2) (s1, s2) [] =
      ((runFrom m2 s2 (m1.fin s1).1).1, (m1.fin s1).2 ++ (runFrom m2 s2 (m1.fin s1).1).2) := rfl

theorem runFrom_comp_cons (m1 : Mealy α β ε) (m2 : Mealy β γ ε) (s1 : m1.σ) (s2 : m2.σ) (a : α) (as : List α) :
    runFrom (comp m1 m2) (s1, s2) (a :: as) =
      ((feed m2 s2 (m1.step s1 a).2.1).2.1 ++
          (runFrom (comp m1 m2) ((m1.step s1 a).1, (feed m2 s2 (m1.step s1 a).2.1).1) as).1,
       ((m1.step s1 a).2.2 ++ (feed m2 s2 (m1.step s1 a).2.1).2.2) ++
          (runFrom (comp m1 m2) ((m1.step s1 a).1, (feed m2 s2 (m1.step s1 a).2.1).1) as).2) := rfl

theorem run_comp (m1 : Mealy α β ε) (m2 : Mealy β γ ε) (xs : List α) :
    run (comp m1 m2) xs = runFrom (comp m1 m2) (m1.init, m2.init) xs := rfl

/-- nested Flows / always-true conditionals are spliced in place: a chain split at any point
into a prefix machine and a suffix machine evaluates the same way (regrouping) -/
theorem C01_regroup (m1 : Mealy α β ε) (m2 : Mealy β γ ε) (xs : List α) :
    (run (comp m1 m2) xs).1 = (run m2 (run m1 xs).1).1 := by
  suffices ∀ s1 s2, (runFrom (comp m1 m2) (s1, s2) xs).1 = (runFrom m2 s2 (runFrom m1 s1 xs).1).1 from this _ _
  induction xs with
  | nil => intro s1 s2; rfl
  | cons a as ih =>
    intro s1 s2
    rw [runFrom_comp_cons]
    simp only [runFrom]
    rw [runFrom_feed_append, ih]

theorem feed_effects (m : Mealy α β ε) (P : ε → Prop) (h : ∀ s a, ∀ e ∈ (m.step s a).2.2, P e) (s : m.σ) (xs : List α) :
    ∀ e ∈ (feed m s xs).2.2, P e := by
  induction xs generalizing s with
  | nil => simp [feed]
  | cons a as ih =>
    intro e he
    rcases List.mem_append.mp he with he | he
    · exact h s a e he
    · exact ih _ e he

def EffAll (m : Mealy α β ε) (P : ε → Prop) : Prop :=
  (∀ s a, ∀ e ∈ (m.step s a).2.2, P e) ∧ (∀ s, ∀ e ∈ (m.fin s).2, P e)

theorem effAll_runFrom (m : Mealy α β ε) (P : ε → Prop) (h : EffAll m P) (s : m.σ) (xs : List α) :
    ∀ e ∈ (runFrom m s xs).2, P e := by
  rw [← List.append_nil xs, runFrom_feed_append]
  exact List.forall_mem_append.mpr ⟨feed_effects m P h.1 s xs, h.2 _⟩

theorem filter_eq_nil_of_forall {Q : ε → Bool} {l : List ε} (h : ∀ e ∈ l, Q e = false) : l.filter Q = [] :=
  List.filter_eq_nil_iff.mpr fun e he => by simp [h e he]

/-- The effects of the lazy composition are an interleaving of those of its parts.  So a kind `Q` of effect that
only one part performs is logged by the composition exactly as by that part run on its own (staged) input. -/
theorem comp_effects_left (m1 : Mealy α β ε) (m2 : Mealy β γ ε) (Q : ε → Bool) (h2 : EffAll m2 (fun e => Q e = false))
    (xs : List α) : (run (comp m1 m2) xs).2.filter Q = (run m1 xs).2.filter Q := by
  suffices ∀ s1 s2, (runFrom (comp m1 m2) (s1, s2) xs).2.filter Q = (runFrom m1 s1 xs).2.filter Q from this _ _
  induction xs with
  | nil => intro s1 s2; rw [runFrom_comp_nil]; simp [runFrom, filter_eq_nil_of_forall (effAll_runFrom m2 _ h2 s2 _)]
  | cons a as ih => intro s1 s2; rw [runFrom_comp_cons]; simp [runFrom, ih, filter_eq_nil_of_forall (feed_effects m2 _ h2.1 s2 _)]

theorem comp_effects_right (m1 : Mealy α β ε) (m2 : Mealy β γ ε) (Q : ε → Bool) (h1 : EffAll m1 (fun e => Q e = false))
    (xs : List α) : (run (comp m1 m2) xs).2.filter Q = (run m2 (run m1 xs).1).2.filter Q := by
  suffices ∀ s1 s2, (runFrom (comp m1 m2) (s1, s2) xs).2.filter Q =
      (runFrom m2 s2 (runFrom m1 s1 xs).1).2.filter Q from this _ _
  induction xs with
  | nil => intro s1 s2; rw [runFrom_comp_nil]; simp [runFrom, filter_eq_nil_of_forall (h1.2 s1)]
  | cons a as ih =>
    intro s1 s2; rw [runFrom_comp_cons]; simp [runFrom, runFrom_feed_append, ih, filter_eq_nil_of_forall (h1.1 s1 a)]

theorem comp_effAll (m1 : Mealy α β ε) (m2 : Mealy β γ ε) (P : ε → Prop)
    (h1 : EffAll m1 P) (h2 : EffAll m2 P) : EffAll (comp m1 m2) P := by
  refine ⟨fun s a e he => ?_, fun s e he => ?_⟩ <;> rcases List.mem_append.mp he with he | he
  · exact h1.1 _ _ e he
  · exact feed_effects m2 _ h2.1 _ _ e he
  · exact h1.2 _ e he
  · exact effAll_runFrom m2 P h2 _ _ e he

theorem tagged_effAll (i : Nat) (m : Mealy α β ε) (P : Nat × ε → Prop) (hP : ∀ e, P (i, e)) :
    EffAll (tagged i m) P := by
  refine ⟨?_, ?_⟩
  · intro s a e he; simp only [tagged, List.mem_map] at he; obtain ⟨x, _, rfl⟩ := he; exact hP x
  · intro s e he; simp only [tagged, List.mem_map] at he; obtain ⟨x, _, rfl⟩ := he; exact hP x

theorem run_tagged (i : Nat) (m : Mealy α β ε) (xs : List α) :
    run (tagged i m) xs = ((run m xs).1, (run m xs).2.map (fun e => (i, e))) := by
  suffices ∀ s : m.σ, runFrom (tagged i m) s xs = ((runFrom m s xs).1, (runFrom m s xs).2.map (fun e => (i, e))) from
    this _
  induction xs with
  | nil => intro s; rfl
  | cons a as ih =>
    intro s
    show ((m.step s a).2.1 ++ (runFrom (tagged i m) (m.step s a).1 as).1,
          (m.step s a).2.2.map (fun e => (i, e)) ++ (runFrom (tagged i m) (m.step s a).1 as).2) = _
    rw [ih]; simp [runFrom]

theorem run_lazyChain_cons (i : Nat) (m : Mealy α α ε) (ms : List (Mealy α α ε)) (xs : List α) :
    run (lazyChain i (m :: ms)) xs = run (comp (tagged i m) (lazyChain (i + 1) ms)) xs := rfl

theorem idM_runFrom (xs : List α) : runFrom (idM : Mealy α α ε) () xs = (xs, []) := by
  induction xs with
  | nil => rfl
  | cons a as ih =>
    show ([a] ++ (runFrom (idM : Mealy α α ε) () as).1, [] ++ (runFrom (idM : Mealy α α ε) () as).2) = _
    rw [ih]; rfl

theorem lazyChain_effAll (ms : List (Mealy α α ε)) : ∀ i j : Nat, j < i →
    EffAll (lazyChain i ms) (fun e => (e.1 == j) = false) := by
  induction ms with
  | nil => intro i j _; exact ⟨by intro s a e he; simp [lazyChain, idM] at he, by intro s e he; simp [lazyChain, idM] at he⟩
  | cons m ms ih =>
    intro i j hj
    exact comp_effAll _ _ _ (tagged_effAll i m _ (by simp; omega)) (ih (i + 1) j (by omega))

theorem stagedChain_tags (ms : List (Mealy α α ε)) : ∀ (k : Nat) (ys : List α),
    ∀ e ∈ (stagedChain k ms ys).2, k ≤ e.1 ∧ e.1 < k + ms.length := by
  induction ms with
  | nil => intro k ys e he; simp [stagedChain] at he
  | cons m ms ih =>
    intro k ys e he
    simp only [stagedChain, List.mem_append, List.mem_map] at he
    rcases he with ⟨x, _, rfl⟩ | he
    · simp
    · have := ih (k + 1) _ e he; simp only [List.length_cons]; omega

theorem stagedChain_filter_nil (ms : List (Mealy α α ε)) (k : Nat) (ys : List α) (j : Nat)
    (hj : j < k ∨ k + ms.length ≤ j) : (stagedChain k ms ys).2.filter (fun e => e.1 == j) = [] :=
  List.filter_eq_nil_iff.mpr fun e he => by have := stagedChain_tags ms k ys e he; simp; omega

/-- **C01 (rows and descriptors).** The lazy chain delivers exactly the events of the staged
evaluation. -/
theorem C01_lazy_eq_staged_outputs (ms : List (Mealy α α ε)) : ∀ (i : Nat) (xs : List α),
    (run (lazyChain i ms) xs).1 = (stagedChain i ms xs).1 := by
  induction ms with
  | nil => intro i xs; show (runFrom (idM : Mealy α α (Nat × ε)) () xs).1 = xs; rw [idM_runFrom]
  | cons m ms ih =>
    intro i xs
    rw [run_lazyChain_cons, C01_regroup, run_tagged]
    show (run (lazyChain (i + 1) ms) (run m xs).1).1 = (stagedChain (i + 1) ms (run m xs).1).1
    exact ih (i + 1) _

/-- **C01 (effects).** Every machine's own effect log is the same in both evaluations. -/
theorem C01_lazy_eq_staged_effects (ms : List (Mealy α α ε)) : ∀ (i : Nat) (xs : List α) (j : Nat),
    (run (lazyChain i ms) xs).2.filter (fun e => e.1 == j) =
      (stagedChain i ms xs).2.filter (fun e => e.1 == j) := by
  induction ms with
  | nil =>
    intro i xs j
    show (runFrom (idM : Mealy α α (Nat × ε)) () xs).2.filter _ = _
    rw [idM_runFrom]; rfl
  | cons m ms ih =>
    intro i xs j
    rw [run_lazyChain_cons]
    show _ = (((run m xs).2.map (fun e => (i, e))) ++ (stagedChain (i + 1) ms (run m xs).1).2).filter _
    rw [List.filter_append]
    by_cases hj : j = i
    · -- the head machine's own log: the rest of the chain, lazy or staged, carries later tags
      subst hj
      rw [comp_effects_left _ _ _ (lazyChain_effAll ms (j + 1) j (Nat.lt_succ_self j)), run_tagged,
        stagedChain_filter_nil ms (j + 1) _ j (Or.inl (Nat.lt_succ_self j)), List.append_nil]
    · -- a later machine's log is its log in the rest of the chain
      have hne : ∀ x : ε, ((i, x).1 == j) = false := fun _ => by simpa using fun h => hj h.symm
      have hnone : ((run m xs).2.map (fun e => (i, e))).filter (fun e => e.1 == j) = [] :=
        List.filter_eq_nil_iff.mpr fun e he => by obtain ⟨x, _, rfl⟩ := List.mem_map.mp he; rw [hne]; nofun
      rw [comp_effects_right _ _ _ (tagged_effAll i m _ hne), run_tagged, hnone,
        List.nil_append]
      exact ih (i + 1) (run m xs).1 j

/-- non-vacuity: a filter, a stateful counter and a buffering reverser, 5 events -/
example :
    (run (lazyChain 0 [rowWise (fun n : Nat => if n % 2 = 0 then [n] else []) (fun n => [n]),
                       scanM (0 : Nat) (fun s n => (s + n, [s + n])),
                       bufferM List.reverse]) [1, 2, 3, 4, 6]).1 = [12, 6, 2] := by decide

end Df.Engine

namespace Df.Link

/-- **No link is silently skipped**: every link is applied in one of the six ways or rejected
with an error. -/
theorem C01_dispatch_total (o : LinkObj) : classify o ≠ .skipped := by
  -- a conditional avoids a value both of whose branches avoid it
  have ite_ne : ∀ {c : Prop} [Decidable c] {a b : Dispatch}, a ≠ .skipped → b ≠ .skipped → (if c then a else b) ≠ .skipped :=
    fun ha hb => by split <;> assumption
  unfold classify
  refine ite_ne nofun (ite_ne nofun (ite_ne ?_ (ite_ne nofun nofun)))
  split
  · exact ite_ne nofun (ite_ne nofun (ite_ne nofun nofun))
  · nofun

/-- every kind of callable with a single `row` / `rows` / `package` parameter is applied:
plain functions, lambdas, bound methods, partials, callable objects alike -/
theorem C01_dispatch_callables (o : LinkObj) (p : String) (hf : o.isFlow = false) (hp : o.isProcessor = false)
    (hc : o.isFunction = true ∨ (o.isCallable = true ∧ o.isIterable = false)) (hparams : o.params = some [p]) :
    classify o = (if p = "row" then .row else if p = "rows" then .rows else if p = "package" then .package
                  else .rejected) := by
  unfold classify
  have : (o.isFunction || (o.isCallable && !o.isIterable)) = true := by
    rcases hc with h | ⟨h1, h2⟩
    · simp [h]
    · simp [h1, h2]
  simp [hf, hp, this, hparams]

theorem linearize_append (a b : List Node) : linearize (a ++ b) = linearize a ++ linearize b := by
  induction a with
  | nil => simp [linearize]
  | cons n rest ih =>
    cases n with
    | step id => simp [linearize, ih]
    | flow cs => simp [linearize, ih, List.append_assoc]
    | cond holds cs => cases holds <;> simp [linearize, ih, List.append_assoc]

/-- **Regrouping**: wrapping any sub-list of links in a nested `Flow` does not change the
order in which the steps take effect. -/
theorem C01_linearize_regroup (a b c : List Node) :
    linearize (a ++ [.flow b] ++ c) = linearize (a ++ b ++ c) := by
  simp [linearize_append, linearize]

/-- **Always-true conditional** = its sub-flow spliced in place. -/
theorem C01_conditional_true (a b c : List Node) :
    linearize (a ++ [.cond true b] ++ c) = linearize (a ++ b ++ c) := by
  simp [linearize_append, linearize]

end Df.Link
