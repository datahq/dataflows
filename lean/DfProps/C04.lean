import DfProps.C01
import DfModel.DriverLogic

/-!
# C04 — a failing step never yields a successful run
-/

namespace Df.Driver

theorem processChain_no_fault_before (k : Nat) (e : Exc) :
    ∀ pos, pos < k → processChain (.package k e) pos = .ok () := by
  intro pos
  induction pos with
  | zero => intro _; rfl
  | succ p ih =>
    intro h
    simp only [processChain, ih (by omega)]
    have : k ≠ p + 1 := by omega
    simp [this]

theorem processChain_package (k : Nat) (e : Exc) (hk : 1 ≤ k) :
    ∀ n, k ≤ n → processChain (.package k e) n = .error (.processorError e k) := by
  intro n
  induction n with
  | zero => intro h; omega
  | succ p ih =>
    intro h
    by_cases hkp : k = p + 1
    · subst hkp
      simp [processChain, processChain_no_fault_before (p + 1) e p (by omega), raiseException]
    · simp [processChain, ih (by omega)]

theorem processChain_ok_of_not_package (f : Fault) (h : ∀ k e, f ≠ .package k e) :
    ∀ n, processChain f n = .ok () := by
  intro n
  induction n with
  | zero => rfl
  | succ p ih =>
    cases f with
    | package k e => exact absurd rfl (h k e)
    | none => simp only [processChain, ih]
    | streaming k e => simp only [processChain, ih]

/-- **C04 (package phase).** If step `k` of `n` raises `e` while the package is being
defined, `process()`/`results()` raise a `ProcessorError` whose cause is `e` — for every
exception class and every position. -/
theorem C04_propagates_package (n k : Nat) (e : Exc) (hk : 1 ≤ k) (hkn : k ≤ n) :
    ∃ pos, safeProcess n (.package k e) = .error (.processorError e pos) := by
  refine ⟨k, ?_⟩
  simp [safeProcess, processChain_package k e hk n hkn, exceptArms, raiseException]

/-- **C04 (row phase / exhaustion).** If any step raises `e` at any row or when a stream is
exhausted, the run raises a `ProcessorError` whose cause is `e` — for every class, including
the schema library's cast and unique-key errors. -/
theorem C04_propagates_streaming (n k : Nat) (e : Exc) :
    ∃ pos, safeProcess n (.streaming k e) = .error (.processorError e pos) := by
  refine ⟨n, ?_⟩
  have := processChain_ok_of_not_package (.streaming k e) (by intro k' e' h; cases h) n
  simp only [safeProcess, this, exceptArms]
  cases e.cls <;> simp [raiseException]

theorem C04_never_ok (n : Nat) (f : Fault) (hf : match f with
      | .none => False
      | .package k _ => 1 ≤ k ∧ k ≤ n
      | .streaming _ _ => True) :
    ∃ r, safeProcess n f = .error r ∧ r.isProcessorError = true ∧
      r.cause = (match f with | .package _ e => e | .streaming _ e => e | .none => r.cause) := by
  cases f with
  | none => exact absurd hf id
  | package k e =>
    obtain ⟨pos, h⟩ := C04_propagates_package n k e hf.1 hf.2
    exact ⟨_, h, rfl, rfl⟩
  | streaming k e =>
    obtain ⟨pos, h⟩ := C04_propagates_streaming n k e
    exact ⟨_, h, rfl, rfl⟩

/-- and a fault-free chain returns normally (the theorem above is not vacuous the other way) -/
theorem C04_ok_without_fault (n : Nat) : safeProcess n .none = .ok () := by
  have := processChain_ok_of_not_package .none (by intro k e h; cases h) n
  simp [safeProcess, this]

end Df.Driver

namespace Df.Engine

variable {α β γ ε : Type}

def CommitOnlyInFin (m : Mealy α β ε) (isCommit : ε → Bool) : Prop :=
  ∀ s a, ∀ e ∈ (m.step s a).2.2, isCommit e = false

/-- **C04 (no later commit).** When a step fails at any input `j` (or at exhaustion), a
dumper / checkpoint writer placed after it — which commits (descriptor write, rename) only
in its epilogue — has performed no commit: its epilogue is never reached. -/
theorem C04_no_commit_after_failure (m1 : Mealy α β ε) (m2 : Mealy β γ ε) (isCommit : ε → Bool)
    (h2 : CommitOnlyInFin m2 isCommit) (xs : List α) (j : Nat) :
    ∀ e ∈ (effectsUntilFailure m1 m2 xs j).2, isCommit e = false :=
  feed_effects m2 _ h2 _ _

theorem C04_no_commit_after_fin_failure (m1 : Mealy α β ε) (m2 : Mealy β γ ε) (isCommit : ε → Bool)
    (h2 : CommitOnlyInFin m2 isCommit) (xs : List α) :
    ∀ e ∈ (effectsUntilFinFailure m1 m2 xs).2, isCommit e = false :=
  feed_effects m2 _ h2 _ _

/-- the writer machines of the model do commit only in the epilogue: an observer whose
`done` effects are the commit -/
theorem observer_commitOnlyInFin (rec : α → ε) (done : List ε) (isCommit : ε → Bool)
    (hrec : ∀ a, isCommit (rec a) = false) : CommitOnlyInFin (observer rec done) isCommit := by
  intro s a e he
  simp [observer] at he
  subst he
  exact hrec a

/-- the complete run does commit (so the statement above is about failure, not vacuity) -/
example : (run (observer (fun n : Nat => (false, n)) [(true, 0)]) [1, 2]).2 = [(false, 1), (false, 2), (true, 0)] := by
  decide

end Df.Engine
