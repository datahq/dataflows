import DfProps.TieLoop

/-!
# Tie (C04): the exception funnel of `DataStreamProcessor` **as written in /repo now**

`raise_exception`, `safe_process` and `_process` are re-translated from base/datastream_processor.py on every run
(`Live.Py.raise_exception`, `safe_process`, `process_chain_step`).

* `Tie_raise_exception_plain / _pe`: an exception that is not a `ProcessorError` is wrapped into one that carries it as its
  cause together with the step's position; a `ProcessorError` is raised again as it is (= `Driver.raiseException`).
All three `Tie_safe_process_*` call it as a flow does: `return_results=False`, no `on_error`.
* `Tie_safe_process_package`: if `_process()` raises (a failure while the package is being defined, anywhere in the chain),
  `safe_process` raises what `raise_exception` makes of that exception — whichever of the three `except` arms catches it.
* `Tie_safe_process_streaming`: if draining the streams fails at any resource — whatever came before drained fine —
  `safe_process` raises what `raise_exception` makes of that exception.
* `Tie_safe_process_ok`: only when nothing fails does it return `(ds, results)`.
* `Tie_process_step_upstream` / `_package` / `_ok`: in `_process`, the upstream chain is built outside the `try` (its exception
  passes unchanged), and a failure of the step's own package phase goes through `raise_exception`.

Together: **`safe_process` never returns normally when a step raised** (= `C04_never_ok`, `C04_propagates_package/streaming` for
the model `Driver.safeProcess`, whose arms `exceptArms` all end in `raiseException`).  Exceptions are values `excObj tag`;
the class test and the constructor of `ProcessorError` are parameters (`isPE`, `wrap`), the theorems hold for every choice.
-/

namespace Df.Tie
open Df Df.Py

variable (isPE : String → Bool) (wrap : String → Int → String)

def rxExt : Ext := fun f args =>
  match f, args with
  | "isinstance:ProcessorError", [v] => .ok (.bool (match excTag v with | some t => isPE t | Option.none => false))
  | "exceptions.ProcessorError", [c, _, _, .tuple [.str "processor_position", .int p]] =>
    (match excTag c with
     | some t => .ok (excObj (wrap t p))
     | Option.none => .error (.typeError "cause"))
  | _, _ => .error (.missingExt f)

attribute [local pyl] rxExt.eq_1 rxExt.eq_2

def clsObj : PV := .dict [(.str "__name__", .str "step")]

/-- what `raise_exception` makes of an exception at position `p` -/
def funnel (t : String) (p : Int) : String := if isPE t then t else wrap t p

theorem Tie_raise_exception (self : PV) (t : String) (p : Int) :
    callFn (rxExt isPE wrap) Live.Py.raise_exception [self, excObj t, clsObj, .int p] = .error (.user (funnel isPE wrap t p)) := by
  unfold Live.Py.raise_exception funnel
  cases h : isPE t <;> simp [pyl, excTag, excObj, clsObj, h]

theorem Tie_raise_exception_plain (self : PV) (t : String) (p : Int) (h : isPE t = false) :
    callFn (rxExt isPE wrap) Live.Py.raise_exception [self, excObj t, clsObj, .int p] = .error (.user (wrap t p)) := by
  rw [Tie_raise_exception]; simp [funnel, h]

theorem Tie_raise_exception_pe (self : PV) (t : String) (p : Int) (h : isPE t = true) :
    callFn (rxExt isPE wrap) Live.Py.raise_exception [self, excObj t, clsObj, .int p] = .error (.user t) := by
  rw [Tie_raise_exception]; simp [funnel, h]

/-- the outside world of `safe_process` for the step at position `p`: `_process()` returns a stream or raises; draining a
resource (`collections.deque(res, maxlen=0)`) succeeds or raises as `bad` says; `self.raise_exception` is the translated
method -/
def spExt (p : Int) (procOut : Except String PV) (bad : PV → Option String) : Ext := fun f args =>
  match f, args with
  | "._process", [_] => (match procOut with | .ok ds => .ok ds | .error t => .error (.user t))
  | "deque", [res, _] => (match bad res with | some t => .error (.user t) | Option.none => .ok .none)
  | ".raise_exception", [s, e] => callFn (rxExt isPE wrap) Live.Py.raise_exception [s, e, clsObj, .int p]
  | "logging.error", _ => .ok .none
  | _, _ => .error (.missingExt f)

attribute [local pyl] spExt.eq_1 spExt.eq_2 spExt.eq_3 spExt.eq_4 spExt.eq_5

/-- the handlers of `safe_process` (as in the source) -/
def spHandlers : H := (.cons "UniqueKeyError" "e" (.expr (.call (.ext ".raise_exception") (.cons (.var "self") (.cons (.var "e") .nil)))) (.cons "CastError" "e" (.seq (.forIn "err" (.call .attr (.cons (.var "e") (.cons (.const (.str "errors")) .nil))) (.expr (.call (.ext "logging.error") (.cons (.const (.str "%s")) (.cons (.var "err") .nil))))) (.expr (.call (.ext ".raise_exception") (.cons (.var "self") (.cons (.var "e") .nil))))) (.cons "Exception" "exception" (.expr (.call (.ext ".raise_exception") (.cons (.var "self") (.cons (.var "exception") .nil)))) .nil)))

/-- the three `except` arms end alike: whichever catches the exception, `raise_exception` gets it -/
theorem arms (p : Int) (procOut : Except String PV) (bad : PV → Option String) (t : String) (hbase : t.startsWith "Base:" = false)
    (st : St) (self : PV) (hself : st.env.get "self" = .ok self) :
    execH (spExt isPE wrap p procOut bad) spHandlers t st = .error (.user (funnel isPE wrap t p)) := by
  have hr := Tie_raise_exception isPE wrap self t p
  unfold spHandlers
  by_cases h1 : "UniqueKeyError" = t
  · simp [pyl, h1, hself, ↓hr]
  · by_cases h2 : "CastError" = t
    · have hattr : opAttr [excObj t, .str "errors"] = .ok (.list []) := rfl
      simp [pyl, h1, h2, hself, ↓hr, ↓hattr, loopFor]
    · simp [pyl, h1, h2, hbase, hself, ↓hr]

/-- what `safe_process` does with one resource of the stream -/
def spDrain : S := (.ite (.var "return_results") (.ite (.call .isnot (.cons (.var "on_error") (.cons (.const .none) .nil))) (.mut "results" "append" (.cons (.call .list_ (.cons (.call (.ext "schema_validator") (.cons (.call .attr (.cons (.var "res") (.cons (.const (.str "res")) .nil))) (.cons (.var "res") (.cons (.call .mkTuple (.cons (.const (.str "on_error")) (.cons (.var "on_error") .nil))) .nil)))) .nil)) .nil)) (.mut "results" "append" (.cons (.call .list_ (.cons (.var "res") .nil)) .nil))) (.expr (.call (.ext "deque") (.cons (.var "res") (.cons (.call .mkTuple (.cons (.const (.str "maxlen")) (.cons (.const (.int 0)) .nil))) .nil)))))

def spTry : S :=
  .seq (.assign "ds" (.call (.ext "._process") (.cons (.var "self") .nil)))
    (.forIn "res" (.call .attr (.cons (.var "ds") (.cons (.const (.str "res_iter")) .nil))) spDrain)

theorem safe_process_is : Live.Py.safe_process =
  { params := ["self", "return_results", "on_error"],
    body := (.seq (.assign "results" (.call .mkList .nil))
      (.seq (.tryCatch spTry spHandlers) (.ret (.call .mkTuple (.cons (.var "ds") (.cons (.var "results") .nil)))))),
    gen := false } := by rfl

/-- the stream object `_process()` returns: its resources are `rs` -/
def dsObj (rs : List PV) : PV := .dict [(.str "res_iter", .list rs)]

def spEnv0 (self : PV) : Env := [("results", .list []), ("on_error", .none), ("return_results", .bool false), ("self", self)]

theorem safe_process_raises (p : Int) (procOut : Except String PV) (bad : PV → Option String) (t : String)
    (hbase : t.startsWith "Base:" = false) (self : PV)
    (h : exec (spExt isPE wrap p procOut bad) spTry { env := spEnv0 self } = .error (.user t)) :
    callFn (spExt isPE wrap p procOut bad) Live.Py.safe_process [self, .bool false, .none]
      = .error (.user (funnel isPE wrap t p)) := by
  have ha := arms isPE wrap p procOut bad t hbase { env := spEnv0 self } self (by simp [spEnv0, get_cons])
  rw [safe_process_is]
  simp only [spEnv0] at h ha
  simp [pyl, h, ha]

/-- a failure while the package is being defined (anywhere in the chain: `self._process()` raises) -/
theorem Tie_safe_process_package (p : Int) (bad : PV → Option String) (t : String) (hbase : t.startsWith "Base:" = false) (self : PV) :
    callFn (spExt isPE wrap p (.error t) bad) Live.Py.safe_process [self, .bool false, .none]
      = .error (.user (funnel isPE wrap t p)) :=
  safe_process_raises isPE wrap p _ bad t hbase self (by simp [pyl, spTry, spEnv0])

theorem drain_loop (ext : Ext) (bad : PV → Option String)
    (hdq : ∀ res kw, ext "deque" [res, kw] = match bad res with | some t => .error (.user t) | Option.none => .ok .none)
    (out : List PV) (rs : List PV) : ∀ (env : Env), env.get "return_results" = .ok (.bool false) →
    (match rs.find? (fun r => (bad r).isSome) with
     | some r => loopFor (exec ext spDrain) (bind1 "res") rs ⟨env, out⟩ = .error (.user ((bad r).getD ""))
     | Option.none => ∃ env', loopFor (exec ext spDrain) (bind1 "res") rs ⟨env, out⟩ = .ok (.next, ⟨env', out⟩) ∧
         Frame ["res"] env env') := by
  induction rs with
  | nil => intro env _; exact ⟨env, by simp [loopFor], Frame.refl _ _⟩
  | cons r rest ih =>
    intro env h
    have hs : exec ext spDrain ⟨("res", r) :: env, out⟩ =
        match bad r with
        | some t => .error (.user t)
        | Option.none => .ok (.next, ⟨("res", r) :: env, out⟩) := by
      cases hb : bad r <;> simp [pyl, spDrain, h, hdq, hb]
    simp only [List.find?_cons, loopFor, bind1, Env.set, bind, Except.bind, hs]
    cases hb : bad r with
    | some t => simp [hb]
    | none =>
      have := ih (("res", r) :: env) (by simpa [get_cons] using h)
      simp only [Option.isSome_none]
      cases hf : rest.find? (fun r => (bad r).isSome) with
      | some r' => simpa only [hf] using this
      | none =>
        simp only [hf] at this ⊢
        obtain ⟨env', h1, h2⟩ := this
        exact ⟨env', h1, (Frame.set r (by simp) (Frame.refl _ env)).trans h2⟩

/-- a failure while the rows stream: whatever was drained before, `safe_process` raises what `raise_exception` makes of it -/
theorem Tie_safe_process_streaming (p : Int) (bad : PV → Option String) (rs : List PV) (r : PV) (t : String)
    (hfind : rs.find? (fun r => (bad r).isSome) = some r) (hbad : bad r = some t) (hbase : t.startsWith "Base:" = false) (self : PV) :
    callFn (spExt isPE wrap p (.ok (dsObj rs)) bad) Live.Py.safe_process [self, .bool false, .none]
      = .error (.user (funnel isPE wrap t p)) := by
  have hl := drain_loop (spExt isPE wrap p (.ok (dsObj rs)) bad) bad (by intro res kw; simp [pyl]) [] rs
    (("ds", dsObj rs) :: spEnv0 self) (by simp [spEnv0, get_cons])
  simp only [hfind, hbad, Option.getD_some, spEnv0, dsObj] at hl
  exact safe_process_raises isPE wrap p _ bad t hbase self (by simp [pyl, spTry, spEnv0, dsObj, iterLazy, hl])

/-- only when nothing fails does `safe_process` return: the stream and (here: not asked for) no results -/
theorem Tie_safe_process_ok (p : Int) (bad : PV → Option String) (rs : List PV)
    (hfind : rs.find? (fun r => (bad r).isSome) = Option.none) (self : PV) :
    callFn (spExt isPE wrap p (.ok (dsObj rs)) bad) Live.Py.safe_process [self, .bool false, .none]
      = .ok (.tuple [dsObj rs, .list []]) := by
  have hl := drain_loop (spExt isPE wrap p (.ok (dsObj rs)) bad) bad (by intro res kw; simp [pyl]) [] rs
    (("ds", dsObj rs) :: spEnv0 self) (by simp [spEnv0, get_cons])
  simp only [hfind] at hl
  obtain ⟨env', h1, hf⟩ := hl
  have h3 := hf "results" (by simp)
  have h4 := hf "ds" (by simp)
  simp only [spEnv0, dsObj, lookup_cons, String.reduceEq, if_true, if_false] at h1 h3 h4
  rw [safe_process_is]
  simp [pyl, spTry, dsObj, iterLazy, h1, Env.get, h3, h4]

def upObj (d : PV) (stats : List PV) : PV := .dict [(.str "dp", .dict [(.str "descriptor", d)]), (.str "stats", .list stats)]

/-- the outside world of `_process` for the step at position `p`: the upstream chain is built (or raises), then the step's
own package phase runs (or raises) -/
def pcExt (p : Int) (up : Except String PV) (pkg : Except String PV) : Ext := fun f args =>
  match f, args with
  | "._process", [_] => (match up with | .ok v => .ok v | .error t => .error (.user t))
  | "Package", [_] => .ok (.opaque "package" "copy")
  | ".process_datapackage", [_, _] => (match pkg with | .ok v => .ok v | .error t => .error (.user t))
  | ".commit", [_] => .ok .none
  | ".get_iterator", [_, _] => .ok (.opaque "iterator" "")
  | "LazyIterator", [_] => .ok (.opaque "lazy" "")
  | "DataStream", [dp, _, _] => .ok (.tuple [.str "datastream", dp])
  | ".raise_exception", [s, e] => callFn (rxExt isPE wrap) Live.Py.raise_exception [s, e, clsObj, .int p]
  | _, _ => .error (.missingExt f)

attribute [local pyl] pcExt.eq_1 pcExt.eq_2 pcExt.eq_3 pcExt.eq_4 pcExt.eq_5 pcExt.eq_6 pcExt.eq_7 pcExt.eq_8 pcExt.eq_9 pcExt.eq_10
  upObj

/-- an exception of the upstream chain passes through unchanged (`self.source._process()` is outside the `try`) -/
theorem Tie_process_step_upstream (p : Int) (pkg : Except String PV) (t : String) (self src stats : PV) :
    callFn (pcExt isPE wrap p (.error t) pkg) Live.Py.process_chain_step [self, src, stats] = .error (.user t) := by
  unfold Live.Py.process_chain_step
  simp [pyl]

/-- an exception of the step's own package phase goes through `raise_exception` -/
theorem Tie_process_step_package (p : Int) (d : PV) (ss : List PV) (t : String) (hbase : t.startsWith "Base:" = false)
    (self src stats : PV) :
    callFn (pcExt isPE wrap p (.ok (upObj d ss)) (.error t)) Live.Py.process_chain_step [self, src, stats]
      = .error (.user (funnel isPE wrap t p)) := by
  have hr := Tie_raise_exception isPE wrap self t p
  unfold Live.Py.process_chain_step
  simp [pyl, hbase, ↓hr]

/-- nothing fails: the new stream carries the descriptor the package phase returned -/
theorem Tie_process_step_ok (p : Int) (d dp' : PV) (ss : List PV) (self src stats : PV) :
    callFn (pcExt isPE wrap p (.ok (upObj d ss)) (.ok dp')) Live.Py.process_chain_step [self, src, stats]
      = .ok (.tuple [.str "datastream", dp']) := by
  unfold Live.Py.process_chain_step
  simp [pyl]

def yieldCall (x fname : String) : S := .yield (.call (.ext fname) (.cons (.var "self") (.cons (.var x) .nil)))

/-- a generator loop `for x in xs: yield f(self, x)`: one output per input, in order, up to the first input on which `f`
raises — whose exception is the loop's (items behind it are never asked for) -/
theorem yield_call_loop (ext : Ext) (x fname : String) (self : PV) (hx : x ≠ "self") (xs : List PV) (env : Env) (out : List PV)
    (hs : env.get "self" = .ok self) :
    Runs Eq (fun ys => out ++ ys) (fun _ env' => env'.get "self" = .ok self) (xs.mapM (fun v => ext fname [self, v]))
      (loopFor (exec ext (yieldCall x fname)) (bind1 x) xs ⟨env, out⟩) := by
  have h := loopFor_map (Q := Eq) (body := exec ext (yieldCall x fname)) (bnd := bind1 x) id (fun v => ext fname [self, v])
    id (fun env => env.get "self" = .ok self) xs
    (fun v _ env out hs => Runs.of_eq (fun _ => (x, v) :: env)
      (by simp only [yieldCall, bind1, Env.set, Except.bind, exec, evalE, evalArgs, applyFn, get_cons, hx.symm, hs, if_true, if_false, bind, id])
      (fun _ _ => by simpa [get_cons, hx.symm] using hs))
    env out hs
  rwa [List.map_id, show (fun ys : List PV => out ++ ys.map id) = fun ys => out ++ ys from funext fun _ => by rw [List.map_id]] at h

theorem callFn_yield_loop (ext : Ext) (p x fname : String) (hx : x ≠ "self") (hp : p ≠ "self") (self : PV) (rows : List PV) :
    callFn ext { params := ["self", p], body := .forIn x (.var p) (yieldCall x fname), gen := true } [self, .list rows]
      = (rows.mapM (fun v => ext fname [self, v])).map PV.list := by
  have h := yield_call_loop ext x fname self hx rows [(p, .list rows), ("self", self)] [] (by simp [get_cons, hp.symm])
  rw [callFn_gen _ _ rfl]
  simp only [bindParams, Env.set, Except.bind]
  rw [exec_forIn_var _ _ _ _ _ rows (by simp [get_cons, Except.bind])]
  rw [h.out_eq]
  cases rows.mapM (fun v => ext fname [self, v]) <;> rfl

/-- `DataStreamProcessor.process_resource`: `process_row` of every row, in order; the first row on which it raises ends the
stream with that exception -/
theorem Tie_default_process_resource (ext : Ext) (self : PV) (rows : List PV) :
    callFn ext Live.Py.default_process_resource [self, .list rows]
      = (rows.mapM (fun v => ext ".process_row" [self, v])).map PV.list :=
  callFn_yield_loop ext "resource" "row" ".process_row" (by simp) (by simp) self rows

theorem Tie_default_process_resources (ext : Ext) (self : PV) (rs : List PV) :
    callFn ext Live.Py.default_process_resources [self, .list rs]
      = (rs.mapM (fun v => ext ".process_resource" [self, v])).map PV.list :=
  callFn_yield_loop ext "resources" "res" ".process_resource" (by simp) (by simp) self rs

/-- non-vacuity: a stream of three resources whose second fails -/
example : ([PV.int 1, .int 2, .int 3].find? (fun r => ((fun v => match v with | PV.int 2 => some "CastError" | _ => Option.none) r).isSome))
    = some (.int 2) := by rfl

end Df.Tie
