import DfProps.TieRow
import DfProps.TieUnpivot

/-!
# Tie (C17), model link: `unpivot.unpivot_rows` **as written in /repo now** = the `Steps` model `unpivotRow` on every row

The row generator of `unpivot` is re-translated from processors/unpivot.py on every run (`Live.Py.unpivot_rows`): three nested
loops — rows, fields to unpivot, fields to keep — a `deepcopy` of the keys of the unpivoted field, `new_row[field] = row[field]`
for the kept fields (a `KeyError` when the row lacks one), then the value cell `row.get(name)`.  `Tie_unpivot_rows`: the
generator's output is, for every row in order, one row per unpivoted field in order, each exactly the `Steps` model's
`unpivotRow` (the keys, then the kept cells, then the value cell — null when the row lacks the unpivoted field); the run fails
exactly when the model fails (a kept field missing from a row).  `C17_unpivot_count` / `C17_unpivot_row_shape` are about
`unpivotRow`.

The run itself is tied in `TieUnpivot`, to a spec on arbitrary Python values.  Here that spec, on embedded rows, is shown to give
the embedded result of the `Steps` model or to fail when the model fails (`unpivotOne_emb`, `unpivotRow_emb`: no evaluation of the
program).

Hypothesis: the embedding of cell values maps null to `None`.
-/

namespace Df.Tie.Unpivot
open Df Df.Py

variable (emb : Val → PV)

/-! the code, by loop: `keepBody` is `keepStmt` and `confBody` is `ufBody` of `TieUnpivot` -/

def keepBody : S :=
  .mut "new_row" "setitem" (.cons (.var "field") (.cons (.call .getitem (.cons (.var "row") (.cons (.var "field") .nil))) .nil))

def confBody : S :=
  .seq (.assign "new_row" (.call .deepcopy (.cons (.call .getitem (.cons (.var "unpivot_field") (.cons (.const (.str "keys")) .nil))) .nil)))
  (.seq (.forIn "field" (.var "fields_to_keep") keepBody)
  (.seq (.mut "new_row" "setitem" (.cons (.call .getitem (.cons (.var "extra_value") (.cons (.const (.str "name")) .nil)))
      (.cons (.call .get (.cons (.var "row") (.cons (.call .getitem (.cons (.var "unpivot_field") (.cons (.const (.str "name")) .nil))) .nil))) .nil)))
  (.yield (.var "new_row"))))

def rowBody : S := .forIn "unpivot_field" (.var "fields_to_unpivot") confBody

theorem unpivot_rows_is : Live.Py.unpivot_rows =
    { params := ["rows", "fields_to_unpivot", "fields_to_keep", "extra_value"], body := .forIn "row" (.var "rows") rowBody, gen := true } := by
  rfl

def keptOf (r : Row) (ks : List String) : Except Err (List (String × Val)) :=
  ks.mapM (fun k => do let v ← Row.index r k; pure (k, v))

def unpivotOne (keep : List String) (vn : String) (row : Row) (c : UnpivotConf) : Except Err Row := do
  let kept ← keptOf row keep
  let r1 := kept.foldl (fun acc kv => Row.set acc kv.1 kv.2) c.keys
  pure (Row.set r1 vn (Row.getD row c.field))

def confPV (c : UnpivotConf) : PV := .dict [(.str "name", .str c.field), (.str "keys", rowPV emb c.keys)]
def evPV (vn : String) (others : List (PV × PV)) : PV := .dict ((.str "name", .str vn) :: others)

theorem keepFold_emb (r : Row) (ks : List String) (acc : Row) :
    Refines (fun kept => rowPV emb (kept.foldl (fun a kv => Row.set a kv.1 kv.2) acc)) (keptOf r ks)
      (keepFold (rowPV emb r) (rowPV emb acc) (ks.map PV.str)) := by
  induction ks generalizing acc with
  | nil => exact rfl
  | cons k rest ih =>
    simp only [keptOf, List.mapM_cons, List.map_cons, keepFold, bind_assoc, pure_bind]
    refine Sim.bind (getitem_row emb r k) fun v s hs => ?_
    rw [hs, setitem_row]
    exact (ih (Row.set acc k v)).map_left (f := fun kept => (k, v) :: kept) fun _ _ h => h

theorem unpivotOne_emb (hnull : emb Val.null = .none) (keep : List String) (vn : String) (others : List (PV × PV)) (r : Row) (c : UnpivotConf) :
    Refines (rowPV emb) (unpivotOne keep vn r c) (Tie.unpivotOne (rowPV emb r) (namesPV keep) (evPV vn others) (confPV emb c)) := by
  unfold unpivotOne Tie.unpivotOne
  simp only [confPV, evPV, namesPV, opGetitem, PV.lookup, PV.beq, iterOf, beq_self_eq_true, ite_true, String.reduceBEq, Bool.false_eq_true, if_false]
  show Refines _ (keptOf r keep >>= _) (keepFold (rowPV emb r) (rowPV emb c.keys) (keep.map PV.str) >>= _)
  refine Sim.bind (keepFold_emb emb r keep c.keys) fun kept s hs => ?_
  rw [hs]
  simp only [bind, Except.bind, opGet_rowPV emb hnull]
  rw [setitem_row]; exact rfl

theorem unpivotRow_emb (hnull : emb Val.null = .none) (confs : List UnpivotConf) (keep : List String) (vn : String) (others : List (PV × PV))
    (r : Row) : Refines (List.map (rowPV emb)) (unpivotRow confs keep vn r)
      (unpivotRowSpec (namesPV keep) (evPV vn others) (confs.map (confPV emb)) (rowPV emb r)) :=
  Refines.mapM confs fun c _ => unpivotOne_emb emb hnull keep vn others r c

theorem keep_loop (ext : Ext) (r : Row) : ∀ (ks : List String) (acc : Row) (env : Env) (out : List PV),
    env.lookup "new_row" = some (rowPV emb acc) → env.lookup "row" = some (rowPV emb r) →
    match keptOf r ks with
    | .ok kept => ∃ env', loopFor (exec ext keepBody) (bind1 "field") (ks.map PV.str) (St.mk env out) = .ok (.next, St.mk env' out)
        ∧ env'.lookup "new_row" = some (rowPV emb (kept.foldl (fun a kv => Row.set a kv.1 kv.2) acc))
        ∧ (∀ x, (x == "new_row") = false → (x == "field") = false → env'.lookup x = env.lookup x)
    | .error _ => ∃ e, loopFor (exec ext keepBody) (bind1 "field") (ks.map PV.str) (St.mk env out) = .error e := by
  intro ks acc env out h1 h2
  exact Runs.to_match _ (Runs.refine (keepFold_emb emb r ks acc) (keep_runs ext (rowPV emb r) (ks.map PV.str) (rowPV emb acc) env out h2 h1))
    (fun _ ⟨env', he, g1, g3⟩ => ⟨env', he, g1, fun x hx1 hx2 => g3 x (by simp at hx1 hx2; simp [hx1, hx2])⟩) (fun _ h => h)

theorem conf_step (hnull : emb Val.null = .none) (ext : Ext) (keep : List String) (vn : String) (others : List (PV × PV)) (r : Row)
    (c : UnpivotConf) (env : Env) (out : List PV)
    (hk : env.lookup "fields_to_keep" = some (namesPV keep)) (hev : env.lookup "extra_value" = some (evPV vn others))
    (hr : env.lookup "row" = some (rowPV emb r)) :
    match unpivotOne keep vn r c with
    | .ok r' => ∃ env', exec ext confBody (St.mk (("unpivot_field", confPV emb c) :: env) out) = .ok (.next, St.mk env' (out ++ [rowPV emb r']))
        ∧ (∀ x, (x == "new_row") = false → (x == "field") = false → (x == "unpivot_field") = false → env'.lookup x = env.lookup x)
    | .error _ => ∃ e, exec ext confBody (St.mk (("unpivot_field", confPV emb c) :: env) out) = .error e := by
  exact Runs.to_match _ (Runs.refine (unpivotOne_emb emb hnull keep vn others r c)
      (uf_step ext (rowPV emb r) (evPV vn others) (confPV emb c) (keep.map PV.str) env out hr hk hev))
    (fun _ ⟨env', he, g⟩ => ⟨env', he, fun x h1 h2 h3 => g x (by simp at h1 h2 h3; simp [h1, h2, h3])⟩) (fun _ h => h)

theorem fm_loop {α} (ext : Ext) (x : String) (body : S) (embA : α → PV) (f : α → Except Err (List PV)) (P : Env → Prop) (xs : List α)
    (hstep : ∀ a, a ∈ xs → ∀ env out, P env →
      match f a with
      | .ok ys => ∃ env', exec ext body (St.mk ((x, embA a) :: env) out) = .ok (.next, St.mk env' (out ++ ys)) ∧ P env'
      | .error _ => ∃ e, exec ext body (St.mk ((x, embA a) :: env) out) = .error e) :
    ∀ env out, P env →
      match xs.mapM f with
      | .ok yss => ∃ env', loopFor (exec ext body) (bind1 x) (xs.map embA) (St.mk env out) = .ok (.next, St.mk env' (out ++ yss.flatten)) ∧ P env'
      | .error _ => ∃ e, loopFor (exec ext body) (bind1 x) (xs.map embA) (St.mk env out) = .error e := by
  intro env out h
  have := loopFor_mapM (Q := AnyErr) (body := exec ext body) (bnd := bind1 x) embA f id P xs
    (fun a ha env out hP => by
      have := hstep a ha env out hP
      revert this
      cases f a with
      | error e => exact fun ⟨e', he⟩ => Runs.err he trivial
      | ok ys => exact fun ⟨env', he, hP'⟩ => Runs.ok he hP') env out h
  simp only [List.flatMap_id] at this
  exact Runs.to_match _ this (fun _ h => h) (fun _ h => h)

/-- what the loops keep: the three arguments that are only read -/
def UEnv (confs : List UnpivotConf) (keep : List String) (vn : String) (others : List (PV × PV)) (env : Env) : Prop :=
  env.lookup "fields_to_unpivot" = some (.list (confs.map (confPV emb))) ∧ env.lookup "fields_to_keep" = some (namesPV keep) ∧
  env.lookup "extra_value" = some (evPV vn others)

theorem row_step (hnull : emb Val.null = .none) (ext : Ext) (confs : List UnpivotConf) (keep : List String) (vn : String)
    (others : List (PV × PV)) (r : Row) (env : Env) (out : List PV) (h : UEnv emb confs keep vn others env) :
    match unpivotRow confs keep vn r with
    | .ok rs => ∃ env', exec ext rowBody (St.mk (("row", rowPV emb r) :: env) out) = .ok (.next, St.mk env' (out ++ rs.map (rowPV emb)))
        ∧ UEnv emb confs keep vn others env'
    | .error _ => ∃ e, exec ext rowBody (St.mk (("row", rowPV emb r) :: env) out) = .error e := by
  exact Runs.to_match _ (Runs.refine (unpivotRow_emb emb hnull confs keep vn others r)
      (uf_loop ext _ (keep.map PV.str) _ (rowPV emb r) env out h))
    (fun _ h => h) (fun _ h => h)

/-- `unpivot_rows`: every row in order, one output row per unpivoted field in order, each the model's; the run fails exactly
when the model does (a kept field missing from a row) -/
theorem Tie_unpivot_rows (hnull : emb Val.null = .none) (ext : Ext) (confs : List UnpivotConf) (keep : List String) (vn : String)
    (others : List (PV × PV)) (rows : List Row) :
    (callFn ext Live.Py.unpivot_rows [.list (rows.map (rowPV emb)), .list (confs.map (confPV emb)), namesPV keep, evPV vn others]).toOption
      = (rows.mapM (unpivotRow confs keep vn)).toOption.map (fun rss => PV.list (rss.flatten.map (rowPV emb))) := by
  rw [namesPV, Tie.Tie_unpivot_rows, unpivotSpec_eq]
  have h := Refines.mapM (f := unpivotRowSpec (.list (keep.map PV.str)) (evPV vn others) (confs.map (confPV emb))) rows
    fun r _ => unpivotRow_emb emb hnull confs keep vn others r
  revert h
  cases rows.mapM (unpivotRow confs keep vn) with
  | error e => exact fun h => by obtain ⟨e', h⟩ := Sim.fails h; rw [h]; rfl
  | ok rss => exact fun h => by obtain ⟨_, h, rfl⟩ := h.of_ok; rw [h]; simp [Except.map, Except.toOption, List.map_flatten]

/-- non-vacuity: rows that have the kept field run through; a row that lacks it fails the model (and so the code) -/
example : (unpivotRow [{ field := "2019", keys := [("year", .int 2019)] }] ["id"] "value" [("id", .int 1), ("2019", .int 5)]).toOption
    = some [[("year", .int 2019), ("id", .int 1), ("value", .int 5)]] := by decide
example : (unpivotRow [{ field := "2019", keys := [("year", .int 2019)] }] ["id"] "value" [("2019", .int 5)]).toOption = none := by decide

end Df.Tie.Unpivot
