import DfProps.C14

/-!
# C14 (continued) — `transform` is applied to every checked value before the cast, nulls included
-/

namespace Df

/-- `transformRow` is the loop of `Row.getD_foldl_set` that always stores -/
theorem getD_transformRow (tr : String → Val → Val) (fields : List String) (hnd : fields.Nodup) (row : Row)
    (g : String) :
    Row.getD (transformRow tr fields row) g = if g ∈ fields then tr g (Row.getD row g) else Row.getD row g :=
  Row.getD_foldl_set (fun f x => some (tr f x)) fields row g hnd

/-- **a missing value goes through `transform` like any other** -/
theorem C14_transform_sees_null (tr : String → Val → Val) (fields : List String) (hnd : fields.Nodup) (row : Row)
    (f : String) (hf : f ∈ fields) (hnull : Row.getD row f = .null) :
    Row.getD (transformRow tr fields row) f = tr f .null := by
  rw [getD_transformRow tr fields hnd, if_pos hf, hnull]

/-- **set_type with a transform emits the cast of the transformed value**: for every policy, every emitted
row carries, under each checked field, the cast of `transform(incoming value)` when that casts (null under
`clear` when it does not, the transformed value itself under `ignore`); other fields are untouched. -/
theorem C14_set_type_transform (cast : Cast) (tr : String → Val → Val) (pol : Policy) (fields : List String)
    (hnd : fields.Nodup) (row : Row) :
    let t := transformRow tr fields row
    (∀ f ∈ fields, Row.getD (rowOut cast pol fields t t) f =
        (fieldOut cast pol t f).getD (tr f (Row.getD row f))) ∧
    (∀ g, g ∉ fields → Row.getD (rowOut cast pol fields t t) g = Row.getD row g) := by
  intro t
  obtain ⟨h1, h2⟩ := C14_emitted_is_cast cast pol fields hnd t
  exact ⟨fun f hf => by rw [h1 f hf, getD_transformRow tr fields hnd, if_pos hf],
    fun g hg => by rw [h2 g hg, getD_transformRow tr fields hnd, if_neg hg]⟩

/-- whole tables under `drop`: exactly the rows whose transformed values all cast are emitted -/
theorem C14_set_type_drop (cast : Cast) (tr : String → Val → Val) (res : String) (fields : List String)
    (hnd : fields.Nodup) (rows : List Row) :
    setTypeRows tr cast .drop res fields rows =
      .ok (((rows.map (transformRow tr fields)).filter (allCastable cast fields)).map
            (fun t => rowOut cast .drop fields t t)) :=
  C14_drop_exact cast res fields hnd 0 _

example : Row.getD (transformRow (fun _ v => if v = .null then .str "0" else v) ["a"] [("a", .null), ("b", .int 1)]) "a" = .str "0" := by
  decide

end Df
