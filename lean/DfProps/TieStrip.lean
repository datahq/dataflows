import DfProps.C13
import DfProps.TieRow

/-!
# Tie (C13): `load.stripper` **as written in /repo now** = `Load.stripCell` on every text cell

`stripper` walks over a snapshot of each row's items and replaces a cell in place when it is a non-empty text whose first or
last character is one of `' \t\n\r'`; the replacement is `str.strip()`.  The generator is re-translated from
processors/load.py on every run (`Live.Py.load_stripper`).

* `Tie_stripper`: every row comes out, in order, with the same keys in the same order, each cell replaced by
  `stripCellPV` of it — text cells by `stripCellS`, every other cell (numbers, None, booleans, containers) untouched.
* `stripCellS_model`: on code points, `stripCellS` **is** the model's `Load.stripCell` (trigger set `' \t\n\r'`, strip set
  Python's `str.isspace`), the function `C13_strip_only_whitespace` / `C13_stripCell_cases` are about.
-/

namespace Df.Tie
open Df Df.Py

def wsT (c : Char) : Bool := c == ' ' || c == '\t' || c == '\n' || c == '\r'

/-- the text cell after `stripper` -/
def stripCellS (s : String) : String :=
  match s.toList, s.toList.getLast? with
  | c :: _, some l => if wsT l || wsT c then pyStrip s else s
  | _, _ => s

def stripCellPV : PV → PV
  | .str s => .str (stripCellS s)
  | v => v

/-- `set(' \t\n\r')` -/
def wsSet : PV := .set [.str " ", .str "\t", .str "\n", .str "\r"]

theorem elem_ws (c : Char) : PV.elem (.str (String.singleton c)) [.str " ", .str "\t", .str "\n", .str "\r"] = wsT c := by
  have h : ∀ d : Char, (String.singleton d == String.singleton c) = (c == d) := by
    intro d
    by_cases hcd : c = d
    · subst hcd; simp
    · have hne : ¬ String.singleton d = String.singleton c := fun e => hcd (String.singleton_inj.mp e).symm
      rw [beq_eq_false_iff_ne.mpr hne, beq_eq_false_iff_ne.mpr hcd]
  have e1 : (" " : String) = String.singleton ' ' := by decide
  have e2 : ("\t" : String) = String.singleton '\t' := by decide
  have e3 : ("\n" : String) = String.singleton '\n' := by decide
  have e4 : ("\r" : String) = String.singleton '\r' := by decide
  simp only [PV.elem, PV.beq, wsT, Bool.or_false]
  rw [e1, e2, e3, e4, h, h, h, h]
  simp [Bool.or_assoc]

/-- does `stripper` touch this text cell -/
def trigS (s : String) : Bool :=
  match s.toList, s.toList.getLast? with
  | c :: _, some l => wsT l || wsT c
  | _, _ => false

theorem stripCellS_eq (s : String) : stripCellS s = if trigS s then pyStrip s else s := by
  unfold stripCellS trigS
  split <;> simp

def trigPV : PV → Bool
  | .str s => trigS s
  | _ => false

def condE : E :=
  .and (.var "v") (.and (.call .isStr (.cons (.var "v") .nil))
    (.or (.call .in_ (.cons (.call .getitem (.cons (.var "v") (.cons (.call .neg (.cons (.const (.int 1)) .nil)) .nil))) (.cons (.var "whitespace") .nil)))
         (.call .in_ (.cons (.call .getitem (.cons (.var "v") (.cons (.const (.int 0)) .nil))) (.cons (.var "whitespace") .nil)))))

theorem pyIndexPV_last {α} (f : α → PV) (x : α) (xs : List α) :
    pyIndexPV ((x :: xs).map f) (-1) = .ok (f ((x :: xs).getLast (by simp))) := by
  have h : pyIndex (x :: xs) (-1) = some ((x :: xs).getLast (by simp)) := by
    simp [pyIndex, List.getLast_eq_getElem]
  rw [pyIndexPV_map, h]

/-- the test of `stripper` on any cell value: true exactly for a non-empty text that starts or ends with one of ' \t\n\r' -/
theorem condE_eval (ext : Ext) (env : Env) (v : PV) (hv : Env.get env "v" = .ok v) (hw : Env.get env "whitespace" = .ok wsSet) :
    (evalE ext env condE).map PV.truthy = .ok (trigPV v) := by
  -- `v and (isinstance(v, str) and …)`: one evaluation, with the two tests still to be decided
  have hand : evalE ext env condE = if v.truthy then (do
      let b ← opIsStr [v]
      if b.truthy then evalE ext env (.or (.call .in_ (.cons (.call .getitem (.cons (.var "v") (.cons (.call .neg (.cons (.const (.int 1)) .nil)) .nil))) (.cons (.var "whitespace") .nil)))
         (.call .in_ (.cons (.call .getitem (.cons (.var "v") (.cons (.const (.int 0)) .nil))) (.cons (.var "whitespace") .nil)))) else .ok b) else .ok v := by
    simp only [condE, evalE, evalArgs, hv, applyFn, builtinOp, bind, Except.bind]
  rw [hand]
  cases v with
  | str s =>
    cases hs : s.toList with
    | nil =>
      have : s = "" := by simpa using hs
      subst this
      rfl
    | cons c cs =>
      have hne : (s != "") = true := by
        have : s ≠ "" := by intro e; subst e; simp at hs
        simpa using this
      have hlast := pyIndexPV_last (fun ch => PV.str (String.singleton ch)) c cs
      have hfirst : pyIndexPV ((c :: cs).map (fun ch => PV.str (String.singleton ch))) 0 = .ok (.str (String.singleton c)) :=
        pyIndexPV_zero _ _
      have hgl : (c :: cs).getLast? = some ((c :: cs).getLast (by simp)) := List.getLast?_eq_some_getLast (by simp)
      -- both tests pass; what is left is `v[-1] in whitespace or v[0] in whitespace`, each side `elem_ws` of a character
      simp only [evalE, evalArgs, hv, hw, PV.truthy, hne, if_true, applyFn, builtinOp, opIsStr, opNeg, opGetitem, hs, hlast, hfirst,
        opIn, containsPV, iterOf, wsSet, Except.map, bind, Except.bind, elem_ws, trigPV, trigS, hgl]
      cases wsT ((c :: cs).getLast (by simp)) <;> simp
  | none => rfl
  | bool b => cases b <;> rfl
  | int i => by_cases hi : i = 0 <;> simp [hi, PV.truthy, trigPV, opIsStr, Except.map, bind, Except.bind]
  | list xs => cases xs <;> rfl
  | tuple xs => cases xs <;> rfl
  | set xs => cases xs <;> rfl
  | dict xs => cases xs <;> rfl
  | counter xs => cases xs <;> rfl
  | _ => rfl

def stripInner : S :=
  .ite condE (.mut "r" "setitem" (.cons (.var "k") (.cons (.call .strip (.cons (.var "v") .nil)) .nil))) .skip

def stripBody : S := .seq (.forIn2 "k" "v" (.call .items (.cons (.var "r") .nil)) stripInner) (.yield (.var "r"))

theorem load_stripper_is : Live.Py.load_stripper =
  { params := ["self", "iterator"],
    body := .seq (.assign "whitespace" (.call .set_ (.cons (.const (.str " \t\n\r")) .nil))) (.forIn "r" (.var "iterator") stripBody),
    gen := true } := by rfl

/-- a row: text keys, any values (that the keys are distinct, as in every dict, is a hypothesis where it is needed) -/
abbrev KV := List (String × PV)
def embKV (kvs : KV) : List (PV × PV) := kvs.map (fun kv => (PV.str kv.1, kv.2))
def stripKV (kvs : KV) : KV := kvs.map (fun kv => (kv.1, stripCellPV kv.2))

theorem dset_mid (done rest : KV) (k : String) (v v' : PV) (h : k ∉ done.map Prod.fst) :
    PV.dset (.str k) v' (embKV (done ++ (k, v) :: rest)) = embKV (done ++ (k, v') :: rest) := by
  induction done with
  | nil => simp [embKV, PV.dset, PV.beq]
  | cons d ds ih =>
    obtain ⟨k', w⟩ := d
    simp only [List.map_cons, List.mem_cons, not_or] at h
    have hne : (k' == k) = false := by
      have : k' ≠ k := fun e => h.1 e.symm
      simpa using this
    simp only [embKV, List.cons_append, List.map_cons, PV.dset, PV.beq, hne, Bool.false_eq_true, if_false] at ih ⊢
    rw [ih h.2]

theorem stripCellPV_of_not_trig (v : PV) (h : trigPV v = false) : stripCellPV v = v := by
  cases v <;> simp [stripCellPV]
  case str s => simp [trigPV] at h; simp [stripCellS_eq, h]

/-- one item of a row: the cell under `k` goes through `stripCellPV`, whichever way the test decides -/
theorem strip_step (ext : Ext) (done rest : KV) (k : String) (v : PV) (env : Env) (out : List PV) (hk : k ∉ done.map Prod.fst)
    (hr : env.get "r" = .ok (.dict (embKV (done ++ (k, v) :: rest)))) (hw : env.get "whitespace" = .ok wsSet) :
    ∃ env', exec ext stripInner ⟨("v", v) :: ("k", .str k) :: env, out⟩ = .ok (.next, ⟨env', out⟩) ∧
      env'.get "r" = .ok (.dict (embKV (done ++ (k, stripCellPV v) :: rest))) ∧ env'.get "whitespace" = .ok wsSet := by
  have hc := condE_eval ext (("v", v) :: ("k", .str k) :: env) v (by simp [get_cons]) (by simpa [get_cons] using hw)
  cases hcv : evalE ext (("v", v) :: ("k", .str k) :: env) condE with
  | error e => rw [hcv] at hc; simp [Except.map] at hc
  | ok cv =>
    rw [hcv] at hc
    have hc : cv.truthy = trigPV v := by simpa [Except.map] using hc
    unfold stripInner
    rw [exec_ite hcv, hc]
    by_cases ht : trigPV v = true
    · obtain ⟨s, rfl⟩ : ∃ s, v = .str s := by
        cases v <;> simp [trigPV] at ht
        exact ⟨_, rfl⟩
      have hcell : stripCellPV (.str s) = .str (pyStrip s) := by
        simp only [trigPV] at ht
        simp [stripCellPV, stripCellS_eq, ht]
      refine ⟨("r", .dict (embKV (done ++ (k, .str (pyStrip s)) :: rest))) :: ("v", .str s) :: ("k", .str k) :: env, ?_,
        by simp [get_cons, hcell], by simpa [get_cons] using hw⟩
      simp [pyl, ht, hr, dset_mid done rest k (.str s) (.str (pyStrip s)) hk]
    · have ht' : trigPV v = false := by simpa using ht
      exact ⟨("v", v) :: ("k", .str k) :: env, by simp [ht', exec], by simpa [get_cons, stripCellPV_of_not_trig v ht'] using hr,
        by simpa [get_cons] using hw⟩

/-- the loop over a snapshot of the items of one row: every cell through `stripCellPV`, the keys where they were -/
theorem inner_strip_loop (ext : Ext) (row : KV) (hnd : (row.map Prod.fst).Nodup) (st : St)
    (hr : st.env.get "r" = .ok (.dict (embKV row))) (hw : st.env.get "whitespace" = .ok wsSet) :
    ∃ st', loopFor (exec ext stripInner) (bind2 "k" "v") (row.map (fun kv => PV.tuple [.str kv.1, kv.2])) st = .ok (.next, st') ∧
      st'.env.get "r" = .ok (.dict (embKV (stripKV row))) ∧ st'.env.get "whitespace" = .ok wsSet ∧ st'.out = st.out := by
  obtain ⟨st', he, _, h2, h3, h4⟩ := loopFor_foldl (body := exec ext stripInner) (bnd := bind2 "k" "v")
    (fun kv : String × PV => PV.tuple [.str kv.1, kv.2])
    (fun todo done st' => ((done ++ todo).map Prod.fst).Nodup ∧ st'.env.get "r" = .ok (.dict (embKV (done ++ todo))) ∧
      st'.env.get "whitespace" = .ok wsSet ∧ st'.out = st.out)
    (fun done kv => done ++ [(kv.1, stripCellPV kv.2)])
    (fun ⟨k, v⟩ rest done st1 ⟨hnd, hr, hw, ho⟩ => by
      have hk : k ∉ done.map Prod.fst := by
        rw [List.map_append, List.nodup_append] at hnd
        exact fun hm => hnd.2.2 k hm k (by simp) rfl
      obtain ⟨env', he, hr', hw'⟩ := strip_step ext done rest k v st1.env st1.out hk hr hw
      exact ⟨.next, ⟨env', st1.out⟩, he, .inl rfl, by simpa [List.map_append] using hnd, by simpa [List.append_assoc] using hr', hw', ho⟩)
    row [] st ⟨by simpa using hnd, by simpa using hr, hw, rfl⟩
  rw [List.foldl_append_eq_append, ← List.flatMap_def, ← List.map_eq_flatMap] at h2
  exact ⟨st', he, by simpa [stripKV] using h2, h3, h4⟩

/-- `load.stripper`: every row, in order, same keys in the same order, every cell through `stripCellPV` -/
theorem Tie_stripper (ext : Ext) (self : PV) (rows : List KV) (hnd : ∀ r ∈ rows, (r.map Prod.fst).Nodup) :
    callFn ext Live.Py.load_stripper [self, .list (rows.map (fun r => PV.dict (embKV r)))]
      = .ok (.list (rows.map (fun r => PV.dict (embKV (stripKV r))))) := by
  rw [callFn_gen _ _ rfl, load_stripper_is]
  simp only [bindParams, Env.set, Except.bind]
  rw [exec_seq_assign (v := wsSet) (by simp [evalE, evalArgs, applyFn, builtinOp, opSet, iterOf, Except.map, wsSet, dedupPV, PV.elem, PV.beq, bind, Except.bind]),
    forIn_map ext "r" "iterator" stripBody (fun r => PV.dict (embKV (stripKV r))) (fun r => PV.dict (embKV r))
      (fun env => env.get "whitespace" = .ok wsSet) rows _ (by simp [get_cons, Env.set, Except.bind]) (by simp [get_cons, Env.set])]
  · rfl
  · intro r hr env out hP
    obtain ⟨st1, l1, l2, l3, l4⟩ := inner_strip_loop ext r (hnd r hr) { env := ("r", PV.dict (embKV r)) :: env, out := out }
      (by simp [get_cons]) (by simpa [get_cons] using hP)
    refine ⟨st1.env, ?_, l3⟩
    have hit : evalE ext (("r", PV.dict (embKV r)) :: env) (.call .items (.cons (.var "r") .nil))
        = .ok (.list (r.map (fun kv => PV.tuple [.str kv.1, kv.2]))) := by
      rw [evalE_items (v := .dict (embKV r)) (by simp [get_cons])]
      simp [opItems, embKV, List.map_map, Function.comp_def]
    simp only [stripBody, exec, bind, Except.bind]
    rw [hit]
    simp only [iterLazy_list]
    rw [l1]
    simp only [evalE, l2, l4]

def codes (l : List Char) : List Nat := l.map Char.toNat

theorem dropWs_codes (W : Char → Bool) (l : List Char) :
    Load.dropWs (fun n => W (Char.ofNat n)) (codes l) = codes (l.dropWhile W) := by
  rw [Load.dropWs_eq_dropWhile, codes, List.dropWhile_map]
  simp only [Function.comp_def, Char.ofNat_toNat]; rfl

theorem strip_codes (W : Char → Bool) (l : List Char) :
    Load.strip (fun n => W (Char.ofNat n)) (codes l) = codes ((l.dropWhile W).reverse.dropWhile W).reverse := by
  unfold Load.strip
  rw [dropWs_codes]
  have : (codes (List.dropWhile W l)).reverse = codes (List.dropWhile W l).reverse := by simp [codes]
  rw [this, dropWs_codes]
  simp [codes]

/-- on code points, the text cell after `stripper` is the model's `stripCell` (trigger set ' \t\n\r', strip set `str.isspace`) -/
theorem stripCellS_model (s : String) :
    codes (stripCellS s).toList
      = Load.stripCell (fun n => wsT (Char.ofNat n)) (fun n => isPySpace (Char.ofNat n)) (codes s.toList) := by
  unfold stripCellS Load.stripCell
  cases hs : s.toList with
  | nil => simp [codes, hs]
  | cons c cs =>
    have hgl : (c :: cs).getLast? = some ((c :: cs).getLast (by simp)) := List.getLast?_eq_some_getLast (by simp)
    have hgl2 : (codes (c :: cs)).getLast? = some (((c :: cs).getLast (by simp)).toNat) := by
      have : (codes (c :: cs)).getLast? = ((c :: cs).getLast?).map Char.toNat := by
        unfold codes; exact List.getLast?_map
      rw [this, hgl]; rfl
    simp only [hgl]
    rw [show codes (c :: cs) = c.toNat :: codes cs from rfl] at hgl2 ⊢
    simp only [hgl2, Char.ofNat_toNat]
    by_cases ht : (wsT ((c :: cs).getLast (by simp)) || wsT c) = true
    · simp only [ht, if_true]
      have := strip_codes isPySpace (c :: cs)
      rw [show codes (c :: cs) = c.toNat :: codes cs from rfl] at this
      rw [this]
      simp [pyStrip, hs]
    · simp only [ht, Bool.false_eq_true, if_false]
      simp [codes, hs]

end Df.Tie
