import DfProps.TieBase

/-! The queue idiom of `parallelize`: `row = q.get(); if row is None: …` at the head of the `while True:` bodies of the fetcher,
the workers and the collector, and `q.put(v)` (translated as `q = put!(q, v)`) in the producer's loop. -/

namespace Df.Tie
open Df Df.Py

theorem exec_take {ext : Ext} {q : String} {onNone rest : S} {env : Env} {out : List PV} {qv hold : PV}
    (hq : env.get q = .ok qv) (hget : ext ".get" [qv] = .ok hold) :
    exec ext (.ite (.const (.bool true)) (.seq (.assign "row" (.call (.ext ".get") (.cons (.var q) .nil)))
        (.seq (.ite (.call .is_ (.cons (.var "row") (.cons (.const .none) .nil))) onNone .skip) rest)) .skip) ⟨env, out⟩
      = exec ext (if isNone hold then .seq onNone rest else rest) ⟨("row", hold) :: env, out⟩ := by
  cases hn : isNone hold <;> simp [pyl, hq, hget, hn]

theorem exec_put {ext : Ext} {q : String} {e : E} {env : Env} {out : List PV} {xs : List PV} {v : PV}
    (hput : ∀ xs v, ext ".put!" [.list xs, v] = .ok (.list (xs ++ [v])))
    (hq : env.get q = .ok (.list xs)) (he : evalE ext env e = .ok v) :
    exec ext (.assign q (.call (.ext ".put!") (.cons (.var q) (.cons e .nil)))) ⟨env, out⟩
      = .ok (.next, ⟨(q, .list (xs ++ [v])) :: env, out⟩) := by
  simp [pyl, hq, he, hput]

end Df.Tie
