import DfProps.TieRow

/-!
# Tie (C15): the row functions of `delete_fields`, `select_fields` and `rename_fields` **as written in /repo now**

`process_resource` of the three field processors is re-translated from the working tree on every run
(`Live.Py.delete_process`, `select_process`, `rename_process`).  Each rebuilds every row with
`dict((k', v) for k, v in row.items() [if k in fields])`.

* `Tie_delete_process`, `Tie_select_process`: the rows come out in order, each restricted to the configured names
  (`Row.restrict`, the function `C15_delete_lockstep` / `C15_select_lockstep` are about) — keys in their original order,
  values untouched.
* `Tie_rename_process`: each row is `Row.ofPairs` of its pairs with the key looked up in the rename map
  (`renameRow`, the function `C15_rename_schema` / `C15_rename_no_double_target` are about).

Rows are embedded as Python dicts with text keys; the values go through an arbitrary embedding `emb` (the row functions
never look at them).
-/

namespace Df.Tie
open Df Df.Py

variable (emb : Val → PV)

def restrictE : E :=
  .call .dict_ (.cons (.comp2 .list (.call .mkTuple (.cons (.var "k") (.cons (.var "v") .nil))) "k" "v"
    (.call .items (.cons (.var "row") .nil)) (.call .in_ (.cons (.var "k") (.cons (.var "fields") .nil)))) .nil)
def renameE : E :=
  .call .dict_ (.cons (.comp2 .list (.call .mkTuple (.cons (.call .get (.cons (.var "fields") (.cons (.var "k") (.cons (.var "k") .nil))))
    (.cons (.var "v") .nil))) "k" "v" (.call .items (.cons (.var "row") .nil)) (.const (.bool true))) .nil)
def deleteBody : S := .yield restrictE
def selectBody : S := .seq (.assign "row" restrictE) (.yield (.var "row"))
def renameBody : S := .yield renameE

theorem delete_process_is : Live.Py.delete_process = { params := ["rows", "fields"], body := .forIn "row" (.var "rows") deleteBody, gen := true } := by rfl
theorem rename_process_is : Live.Py.rename_process = { params := ["rows", "fields"], body := .forIn "row" (.var "rows") renameBody, gen := true } := by rfl
theorem select_process_is : Live.Py.select_process =
  { params := ["rows", "configuration"], body :=
    (.seq (.assign "fields" (.call .getitem (.cons (.var "configuration") (.cons (.call .getitem (.cons (.call .attr (.cons (.call .attr
      (.cons (.var "rows") (.cons (.const (.str "res")) .nil))) (.cons (.const (.str "descriptor")) .nil))) (.cons (.const (.str "name")) .nil))) .nil))))
      (.forIn "row" (.var "rows") selectBody)), gen := true } := by rfl

/-- one rebuilt row: `dict((k, v) for k, v in row.items() if k in fields)` = the restriction, for a list or a set of names -/
theorem restrict_eval (ext : Ext) (env : Env) (names : List String) (fields : PV) (hf : fields = namesPV names ∨ fields = nameSetPV names)
    (r : Row) (hnd : (Row.keys r).Nodup) (hrow : env.get "row" = .ok (rowPV emb r)) (hfields : env.get "fields" = .ok fields) :
    evalE ext env restrictE = .ok (rowPV emb (Row.restrict r names)) := by
  unfold restrictE
  have hc := items_comp emb ext env (.var "k") (.call .in_ (.cons (.var "k") (.cons (.var "fields") .nil))) id (fun k => names.contains k)
    (by intro k v; simp [evalE, get_cons])
    (by
      intro k v
      rcases hf with hf | hf <;> subst hf <;>
        simp [evalE, evalArgs, get_cons, hfields, applyFn, builtinOp, opIn, containsPV, iterOf, namesPV, nameSetPV, bind, Except.bind,
          Except.map, elem_str])
    r hrow
  rw [evalE]
  simp only [evalArgs, hc, bind, Except.bind, applyFn, builtinOp, id]
  have := opDict_emb emb (r.filter (fun kv => names.contains kv.1))
  rw [ofPairs_nodup _ ((List.filter_sublist.map _).nodup hnd)] at this
  simpa [Row.restrict] using this

/-- `delete_fields.process_resource`: every row, in order, restricted to the names that stay -/
theorem Tie_delete_process (ext : Ext) (names : List String) (rows : List Row) (hnd : ∀ r ∈ rows, (Row.keys r).Nodup) :
    callFn ext Live.Py.delete_process [.list (rows.map (rowPV emb)), namesPV names]
      = .ok (.list (rows.map (fun r => rowPV emb (Row.restrict r names)))) := by
  rw [callFn_gen _ _ rfl, delete_process_is]
  simp only [bindParams, Env.set, Except.bind]
  rw [forIn_map ext "row" "rows" deleteBody (fun r => rowPV emb (Row.restrict r names)) (rowPV emb)
    (fun env => env.get "fields" = .ok (namesPV names)) rows _ (by simp [get_cons, Except.bind]) (by simp [get_cons])]
  · rfl
  · intro r hr env out hP
    refine ⟨("row", rowPV emb r) :: env, ?_, by simpa [get_cons] using hP⟩
    simp only [deleteBody, exec, bind, Except.bind, restrict_eval emb ext (("row", rowPV emb r) :: env) names (namesPV names) (Or.inl rfl) r
      (hnd r hr) (by simp [get_cons]) (by simpa [get_cons] using hP)]

/-- a resource object carrying its name and its rows -/
def resObj (name : String) (rows : List PV) : PV :=
  .dict [(.str "res", .dict [(.str "descriptor", .dict [(.str "name", .str name)])]), (.str "__iter__", .list rows)]

/-- `select_fields.process_resource`: the resource's own entry of the configuration decides; every row, in order,
restricted to the selected names -/
theorem Tie_select_process (ext : Ext) (name : String) (names : List String) (others : List (PV × PV)) (rows : List Row)
    (hnd : ∀ r ∈ rows, (Row.keys r).Nodup) :
    callFn ext Live.Py.select_process [resObj name (rows.map (rowPV emb)), .dict ((.str name, nameSetPV names) :: others)]
      = .ok (.list (rows.map (fun r => rowPV emb (Row.restrict r names)))) := by
  rw [callFn_gen _ _ rfl, select_process_is]
  simp only [bindParams, Env.set, Except.bind]
  rw [exec_seq_assign (v := nameSetPV names) (by simp [pyl, resObj]), forIn_map ext "row" "rows" selectBody (fun r => rowPV emb (Row.restrict r names)) (rowPV emb)
    (fun env => env.get "fields" = .ok (nameSetPV names)) rows _
    (by simp [pyl, resObj, iterLazy]) (by simp [Env.set, get_cons])]
  · rfl
  · intro r hr env out hP
    refine ⟨("row", rowPV emb (Row.restrict r names)) :: ("row", rowPV emb r) :: env, ?_, by simpa [get_cons] using hP⟩
    simp only [selectBody, exec, bind, Except.bind, Env.set, evalE, get_cons, if_true,
      restrict_eval emb ext (("row", rowPV emb r) :: env) names (nameSetPV names) (Or.inr rfl) r
      (hnd r hr) (by simp [get_cons]) (by simpa [get_cons] using hP)]

/-- one rebuilt row: `dict((fields.get(k, k), v) for k, v in row.items())` = the row with its keys looked up in the rename map -/
theorem rename_eval (ext : Ext) (env : Env) (mp : List (String × String)) (r : Row)
    (hrow : env.get "row" = .ok (rowPV emb r)) (hfields : env.get "fields" = .ok (mapPV mp)) :
    evalE ext env renameE = .ok (rowPV emb (renameRow mp r)) := by
  have hc := items_comp emb ext env (.call .get (.cons (.var "fields") (.cons (.var "k") (.cons (.var "k") .nil)))) (.const (.bool true))
    (fun k => (lookupStr mp k).getD k) (fun _ => true)
    (by
      intro k v
      simp only [evalE, evalArgs, get_cons, String.reduceEq, if_true, if_false, hfields, applyFn, builtinOp, opGet, mapPV, lookup_mapPV, bind,
        Except.bind]
      cases lookupStr mp k <;> simp)
    (by intro k v; simp [evalE, Except.map, PV.truthy])
    r hrow
  have hd := opDict_emb emb (r.map (fun kv => ((lookupStr mp kv.1).getD kv.1, kv.2)))
  rw [renameE, evalE]
  simp only [List.map_map, Function.comp_def] at hd
  rw [show List.filter (fun _ : String × Val => true) r = r by simp] at hc
  simp [evalArgs, hc, bind, Except.bind, applyFn, builtinOp, hd, renameRow]

/-- `rename_fields.process_resource`: every row, in order, rebuilt with each key looked up in the rename map (a key
without an entry keeps its name) -/
theorem Tie_rename_process (ext : Ext) (mp : List (String × String)) (rows : List Row) :
    callFn ext Live.Py.rename_process [.list (rows.map (rowPV emb)), mapPV mp]
      = .ok (.list (rows.map (fun r => rowPV emb (renameRow mp r)))) := by
  rw [callFn_gen _ _ rfl, rename_process_is]
  simp only [bindParams, Env.set, Except.bind]
  rw [forIn_map ext "row" "rows" renameBody (fun r => rowPV emb (renameRow mp r)) (rowPV emb)
    (fun env => env.get "fields" = .ok (mapPV mp)) rows _ (by simp [get_cons, Except.bind]) (by simp [get_cons])]
  · rfl
  · intro r _ env out hP
    refine ⟨("row", rowPV emb r) :: env, ?_, by simpa [get_cons] using hP⟩
    simp only [renameBody, exec, bind, Except.bind, rename_eval emb ext (("row", rowPV emb r) :: env) mp r (by simp [get_cons])
      (by simpa [get_cons] using hP)]

/-- the hypothesis of the two restriction theorems is what every Python dict satisfies; a concrete instance -/
example : ∀ r ∈ [[("a", Val.int 1), ("b", Val.null)], [("b", Val.str "x")]], (Row.keys r).Nodup := by
  intro r hr
  simp only [List.mem_cons, List.mem_nil_iff, or_false] at hr
  rcases hr with h | h <;> subst h <;> decide

end Df.Tie
