import DfModel.Sql
import DfProps.Util

/-!
# C20 — dump_to_sql leaves the table in the state its mode prescribes

An update dump is read through the key column `t.map (keyOf keys)` of the table: `upsert` leaves it
alone when the key is there and appends the key otherwise (`upsert_keys`); presence of the dumped
keys and key uniqueness follow from that.
-/

namespace Df.Sql

theorem C20_rewrite (t : Option Table) (rows : List Row) : (dump .rewrite t rows).1 = rows := rfl

theorem C20_append (t : Option Table) (rows : List Row) : (dump .append t rows).1 = t.getD [] ++ rows := rfl

theorem C20_no_flags_without_update (t : Option Table) (rows : List Row) :
    (∀ b ∈ (dump .rewrite t rows).2, b = false) ∧ (∀ b ∈ (dump .append t rows).2, b = false) := by
  constructor <;> (intro b hb; simp [dump] at hb; exact hb.2)

/-! ## one row -/

theorem any_key (keys : List String) (t : Table) (k : List Val) :
    t.any (fun x => keyOf keys x == k) = true ↔ k ∈ t.map (keyOf keys) := by
  simp only [List.any_eq_true, beq_iff_eq, List.mem_map]

theorem upsert_hit {keys : List String} {t : Table} {r : Row} (h : keyOf keys r ∈ t.map (keyOf keys)) :
    upsert keys t r = (t.map (fun x => if keyOf keys x == keyOf keys r then r else x), true) :=
  if_pos ((any_key ..).mpr h)

theorem upsert_miss {keys : List String} {t : Table} {r : Row} (h : keyOf keys r ∉ t.map (keyOf keys)) :
    upsert keys t r = (t ++ [r], false) :=
  if_neg (mt (any_key ..).mp h)

/-- **Flags are truthful**: a row is reported as an update iff a row with its key was in the
table at the moment it was written. -/
theorem C20_flags_truthful (keys : List String) (t : Table) (r : Row) :
    (upsert keys t r).2 = true ↔ ∃ x ∈ t, keyOf keys x = keyOf keys r := by
  rw [← List.mem_map]
  by_cases h : keyOf keys r ∈ t.map (keyOf keys)
  · simp only [upsert_hit h, h]
  · simp only [upsert_miss h, h, Bool.false_eq_true]

theorem upsert_keys (keys : List String) (t : Table) (r : Row) :
    (upsert keys t r).1.map (keyOf keys) =
      if keyOf keys r ∈ t.map (keyOf keys) then t.map (keyOf keys) else t.map (keyOf keys) ++ [keyOf keys r] := by
  split <;> rename_i h
  · rw [upsert_hit h, List.map_map]
    refine List.map_congr_left fun x _ => ?_
    simp only [Function.comp_apply, apply_ite (keyOf keys), ite_eq_right_iff, beq_iff_eq]
    exact Eq.symm
  · rw [upsert_miss h, List.map_append]; rfl

theorem mem_upsert (keys : List String) (t : Table) (r x : Row) (hx : x ∈ (upsert keys t r).1) :
    if keyOf keys x = keyOf keys r then x = r else x ∈ t := by
  by_cases h : keyOf keys r ∈ t.map (keyOf keys)
  · rw [upsert_hit h] at hx
    obtain ⟨y, hy, rfl⟩ := List.mem_map.mp hx
    by_cases hk : keyOf keys y = keyOf keys r <;> simp [hk, hy]
  · rw [upsert_miss h] at hx
    rcases List.mem_append.mp hx with hx | hx
    · rw [if_neg fun hk => h (List.mem_map.mpr ⟨x, hx, hk⟩)]; exact hx
    · cases List.mem_singleton.mp hx; exact if_pos rfl ▸ rfl

/-! ## one dump -/

theorem mem_upsertAll_keys (keys : List String) (k : List Val) : ∀ (rows : List Row) (t : Table),
    k ∈ (upsertAll keys t rows).1.map (keyOf keys) ↔ k ∈ t.map (keyOf keys) ∨ k ∈ rows.map (keyOf keys)
  | [], t => by simp [upsertAll]
  | r :: rs, t => by
    rw [upsertAll, mem_upsertAll_keys keys k rs, upsert_keys, List.map_cons, List.mem_cons, ← or_assoc]
    split
    · exact or_congr_left ⟨Or.inl, fun h => h.elim id (· ▸ ‹_›)⟩
    · rw [List.mem_append, List.mem_singleton]

/-- the last dumped row with a given key -/
def lastWith (keys : List String) : List Row → List Val → Option Row
  | [], _ => none
  | r :: rs, k =>
    match lastWith keys rs k with
    | some x => some x
    | none => if keyOf keys r == k then some r else none

/-- **Update = latest values**: after an `update` dump every row of the table whose key was
among the dumped rows holds the values of the most recently dumped row with that key; every
other row is an untouched row of the old table; and every dumped key is present. -/
theorem C20_update_latest (keys : List String) : ∀ (rows : List Row) (t : Table),
    (∀ x ∈ (upsertAll keys t rows).1,
      match lastWith keys rows (keyOf keys x) with
      | some r => x = r
      | none => x ∈ t) ∧
    (∀ r ∈ rows, ∃ x ∈ (upsertAll keys t rows).1, keyOf keys x = keyOf keys r) := by
  intro rows t
  refine ⟨?_, fun r hr => List.mem_map.mp ((mem_upsertAll_keys keys _ rows t).mpr (Or.inr (List.mem_map_of_mem hr)))⟩
  induction rows generalizing t with
  | nil => intro x hx; exact hx
  | cons r rs ih =>
    intro x hx
    have := ih _ x hx
    simp only [lastWith]
    cases hl : lastWith keys rs (keyOf keys x) with
    | some r' => simpa only [hl] using this
    | none =>
      simp only [hl] at this ⊢
      have := mem_upsert keys t r x this
      split at this <;> rename_i hk
      · simp [this]
      · simpa [show ¬keyOf keys r = keyOf keys x from fun h => hk h.symm] using this

theorem upsert_keys_nodup (keys : List String) (t : Table) (r : Row)
    (h : (t.map (keyOf keys)).Nodup) : ((upsert keys t r).1.map (keyOf keys)).Nodup := by
  rw [upsert_keys]
  split
  · exact h
  · exact nodup_concat h ‹_›

/-- **Key uniqueness is preserved** by update dumps. -/
theorem C20_update_unique (keys : List String) : ∀ (rows : List Row) (t : Table),
    (t.map (keyOf keys)).Nodup → ((upsertAll keys t rows).1.map (keyOf keys)).Nodup := by
  intro rows
  induction rows with
  | nil => intro t h; simpa [upsertAll] using h
  | cons r rs ih => intro t h; simp only [upsertAll]; exact ih _ (upsert_keys_nodup keys t r h)

/-- **Histories**: the state after any sequence of dumps is the fold of the per-dump
semantics; in particular histories compose. -/
theorem C20_history (t : Option Table) (a b : List (Mode × List Row)) :
    history t (a ++ b) = history (history t a) b := by
  induction a generalizing t with
  | nil => rfl
  | cons x xs ih => obtain ⟨m, rows⟩ := x; simp [history, ih]

/-- a rewrite anywhere in the history forgets everything before it -/
theorem C20_rewrite_forgets (t t' : Option Table) (rows : List Row) (rest : List (Mode × List Row)) :
    history t ((.rewrite, rows) :: rest) = history t' ((.rewrite, rows) :: rest) := rfl

example : (history none [(.append, [[("id", .int 1), ("v", .str "a")]]),
    (.update ["id"], [[("id", .int 1), ("v", .str "b")], [("id", .int 2), ("v", .str "c")], [("id", .int 2), ("v", .str "d")]])])
    = some [[("id", .int 1), ("v", .str "b")], [("id", .int 2), ("v", .str "d")]] := by decide

end Df.Sql
