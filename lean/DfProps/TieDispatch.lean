import DfProps.TieLoop

/-!
# Tie (C10): the row-phase dispatch loop of the selector-taking processors **as written in /repo now**

Every selector-taking processor ends its row phase with the same loop:

    for R in package:
        if matcher.match(R.res.name): yield <processed R>      (or the negated test with the branches swapped)
        else:                         yield R

The loops are re-translated from the working tree on every run (`Live.Py.loop_<processor>`).  `Tie_frame_<processor>`
(`FrameOf`): whatever `<processed R>` is, *if the loop completes* it yields exactly one stream per incoming resource, in
order, and for every resource the matcher does not match the yielded stream **is** the incoming one — the frame half of C10,
derived from the loop that is in the code.  Each of them goes through `frameOf_of_shape`, which asks that the processor's
loop have this shape (checked by `rfl`); `dispatch_frame` states the same for a loop given as a statement.
-/

namespace Df.Tie
open Df Df.Py

/-- `matcher.match(R.res.name)` -/
def matchCall (mvar R : String) : E :=
  .call (.ext ".match") (.cons (.var mvar) (.cons (.call .attr (.cons (.call .attr (.cons (.var R) (.cons (.const (.str "res")) .nil)))
    (.cons (.const (.str "name")) .nil))) .nil))

/-- shape A: `if match: yield X else: yield R` -/
def bodyA (mvar R : String) (X : E) : S := .ite (matchCall mvar R) (.yield X) (.yield (.var R))
/-- shape B: `if not match: yield R else: yield X` -/
def bodyB (mvar R : String) (X : E) : S := .ite (.not (matchCall mvar R)) (.yield (.var R)) (.yield X)

/-- what the test evaluates to for a resource object `r` and a matcher object `mt` -/
def matchVal (ext : Ext) (mt r : PV) : Except Err Bool := do
  let res ← opAttr [r, .str "res"]
  let nm ← opAttr [res, .str "name"]
  let b ← ext ".match" [mt, nm]
  pure b.truthy

theorem matchCall_eval (ext : Ext) (mvar R : String) (env : Env) (mt r : PV) (hne : mvar ≠ R)
    (hm : env.lookup mvar = some mt) :
    (evalE ext ((R, r) :: env) (matchCall mvar R)).map PV.truthy = matchVal ext mt r := by
  unfold matchCall matchVal
  simp only [evalE, evalArgs, applyFn, builtinOp, Env.get, lookup_cons, hne, hm, if_true, if_false, bind, Except.bind, Except.map,
    pure, Except.pure]
  cases opAttr [r, PV.str "res"] with
  | error e => rfl
  | ok res =>
    simp only []
    cases opAttr [res, PV.str "name"] with
    | error e => rfl
    | ok nm =>
      cases ext ".match" [mt, nm] <;> rfl

theorem ite_match (ext : Ext) (mvar R : String) (t f : S) (env : Env) (out : List PV) (mt r : PV) (hne : mvar ≠ R)
    (hm : env.lookup mvar = some mt) :
    exec ext (.ite (matchCall mvar R) t f) { env := (R, r) :: env, out := out } =
      (matchVal ext mt r).bind fun m => exec ext (if m then t else f) { env := (R, r) :: env, out := out } := by
  rw [exec, ← matchCall_eval ext mvar R env mt r hne hm]
  cases evalE ext ((R, r) :: env) (matchCall mvar R) with
  | error e => rfl
  | ok v => cases h : v.truthy <;> simp [Except.map, bind, Except.bind, h]

/-- A turn of `if match: T else: yield R` that ends: the test has a value `m`; for `m` true the turn is that of `T`, which
evaluates `X` and yields `g v` for its value `v` (`hT`: a `yield X` or a bare `X`); otherwise `R` itself is yielded. -/
theorem body_step (ext : Ext) (mvar R : String) (T : S) (X : E) (g : PV → List PV) (env : Env) (out : List PV) (mt r : PV)
    (hT : ∀ st, exec ext T st = (evalE ext st.env X).bind fun v => .ok (.next, { st with out := st.out ++ g v }))
    (hne : mvar ≠ R) (hm : env.lookup mvar = some mt) (c : Ctl) (st' : St)
    (h : exec ext (.ite (matchCall mvar R) T (.yield (.var R))) { env := (R, r) :: env, out := out } = .ok (c, st')) :
    c = .next ∧ st'.env = (R, r) :: env ∧
      ∃ m zs, matchVal ext mt r = .ok m ∧ st'.out = out ++ zs ∧ if m then ∃ v, zs = g v else zs = [r] := by
  rw [ite_match ext mvar R _ _ env out mt r hne hm] at h
  cases hmv : matchVal ext mt r with
  | error e => simp [hmv, Except.bind] at h
  | ok m =>
    cases m with
    | false =>
      simp only [hmv, Except.bind, Bool.false_eq_true, if_false, exec, evalE, Env.get, lookup_cons, if_true, bind, Except.ok.injEq,
        Prod.mk.injEq] at h
      obtain ⟨rfl, rfl⟩ := h
      exact ⟨rfl, rfl, false, [r], rfl, rfl, rfl⟩
    | true =>
      simp only [hmv, Except.bind, if_true, hT] at h
      cases hx : evalE ext ((R, r) :: env) X with
      | error e => simp [hx] at h
      | ok v =>
        simp only [hx, Except.ok.injEq, Prod.mk.injEq] at h
        obtain ⟨rfl, rfl⟩ := h
        exact ⟨rfl, rfl, true, g v, rfl, rfl, v, rfl⟩

inductive AllPairs (P : PV → PV → Prop) : List PV → List PV → Prop
  | nil : AllPairs P [] []
  | cons {a b : PV} {as bs : List PV} : P a b → AllPairs P as bs → AllPairs P (a :: as) (b :: bs)

theorem AllPairs.length_eq {P : PV → PV → Prop} {xs ys : List PV} (h : AllPairs P xs ys) : xs.length = ys.length := by
  induction h with
  | nil => rfl
  | cons _ _ ih => simp [ih]

/-- A loop of such turns that completes: what it yields stands to the incoming items in any relation `Rel` that one turn
extends (`hcons`) — `AllPairs` for the processors that pass unmatched resources on, `keepUnmatched` for `delete_resource`. -/
theorem dispatch_loop (ext : Ext) (mvar R : String) (T : S) (X : E) (g : PV → List PV) (Rel : List PV → List PV → Prop) (mt : PV)
    (hT : ∀ st, exec ext T st = (evalE ext st.env X).bind fun v => .ok (.next, { st with out := st.out ++ g v }))
    (hnil : Rel [] [])
    (hcons : ∀ r rs m zs ys, matchVal ext mt r = .ok m → (if m then ∃ v, zs = g v else zs = [r]) → Rel rs ys → Rel (r :: rs) (zs ++ ys))
    (hne : mvar ≠ R) (rs : List PV) (st : St) (hm : st.env.lookup mvar = some mt) (c : Ctl) (st' : St)
    (h : loopFor (exec ext (.ite (matchCall mvar R) T (.yield (.var R)))) (bind1 R) rs st = .ok (c, st')) :
    ∃ ys, st'.out = st.out ++ ys ∧ Rel rs ys := by
  induction rs generalizing st with
  | nil =>
    simp only [loopFor, Except.ok.injEq, Prod.mk.injEq] at h
    exact ⟨[], by simp [← h.2], hnil⟩
  | cons r rs ih =>
    simp only [loopFor, bind1, Env.set, bind, Except.bind] at h
    cases hb : exec ext (.ite (matchCall mvar R) T (.yield (.var R))) { env := (R, r) :: st.env, out := st.out } with
    | error e => simp [hb] at h
    | ok res =>
      obtain ⟨c1, st1⟩ := res
      obtain ⟨rfl, henv, m, zs, hmv, hout, hz⟩ := body_step ext mvar R T X g st.env st.out mt r hT hne hm c1 st1 hb
      simp only [hb] at h
      obtain ⟨ys, hys, hrel⟩ := ih st1 (by simp [henv, lookup_cons, hne, hm]) h
      exact ⟨zs ++ ys, by rw [hys, hout, List.append_assoc], hcons r rs m zs ys hmv hz hrel⟩

/-- run a translated dispatch loop `for R in P: <body>`; `P` is bound to an object that iterates over `rs`, the matcher
variable to `mt`; `others` are the remaining free variables of the loop (the arguments of the processing call) -/
def runLoop (ext : Ext) (loop : S) (P mvar : String) (mt : PV) (rs : List PV) (others : Env) : Except Err (List PV) :=
  (exec ext loop { env := (mvar, mt) :: (P, .dict [(.str "__iter__", .list rs)]) :: others, out := [] }).map (fun r => r.2.out)

theorem runLoop_ok (ext : Ext) (body : S) (P mvar R : String) (hp : mvar ≠ P) (mt : PV) (rs : List PV) (others : Env) (ys : List PV)
    (h : runLoop ext (.forIn R (.var P) body) P mvar mt rs others = .ok ys) :
    ∃ c st', loopFor (exec ext body) (bind1 R) rs
      { env := (mvar, mt) :: (P, .dict [(.str "__iter__", .list rs)]) :: others, out := [] } = .ok (c, st') ∧ st'.out = ys := by
  rw [runLoop, exec_forIn_var _ _ _ _ _ rs (by simp [Env.get, lookup_cons, Ne.symm hp, Except.bind, iterLazy_pkg])] at h
  cases hl : loopFor (exec ext body) (bind1 R) rs _ with
  | error e => simp [hl, Except.map] at h
  | ok res => exact ⟨res.1, res.2, rfl, by simpa [hl, Except.map] using h⟩

abbrev FrameOf (loop : Fn) (P mvar : String) : Prop :=
  ∀ (ext : Ext) (mt : PV) (rs : List PV) (others : Env) (ys : List PV),
    runLoop ext loop.body P mvar mt rs others = .ok ys →
    AllPairs (fun r y => matchVal ext mt r = .ok false → y = r) rs ys

theorem frameOf_of_shape {fn : Fn} {P mvar : String} (R : String) (X : E) (shapeA : Bool)
    (hshape : fn.body = .forIn R (.var P) (if shapeA then bodyA mvar R X else bodyB mvar R X))
    (hne : mvar ≠ R) (hp : mvar ≠ P) : FrameOf fn P mvar := by
  intro ext mt rs others ys h
  obtain ⟨c, st', hl, rfl⟩ := runLoop_ok ext _ P mvar R hp mt rs others ys (hshape ▸ h)
  rw [show exec ext (if shapeA then bodyA mvar R X else bodyB mvar R X) = exec ext (bodyA mvar R X) by
    cases shapeA <;> simp [bodyA, bodyB, exec_ite_not]] at hl
  obtain ⟨zs, hzs, hall⟩ := dispatch_loop ext mvar R (.yield X) X (fun v => [v]) (AllPairs fun r y => matchVal ext mt r = .ok false → y = r) mt
    (fun _ => rfl) .nil
    (fun r rs m zs ys hmv hz hall => by
      cases m with
      | false => rw [hz]; exact .cons (fun _ => rfl) hall
      | true => obtain ⟨y, rfl⟩ := hz; exact .cons (fun hf => by simp [hmv] at hf) hall)
    hne rs _ (by simp) c st' hl
  rw [hzs]; exact hall

/-- **frame**: if the loop completes, it yields one stream per incoming resource, in order, and every resource the
matcher does not match comes out as the very stream that came in -/
theorem dispatch_frame (ext : Ext) (loop : S) (P mvar R : String) (X : E) (shapeA : Bool)
    (hshape : loop = .forIn R (.var P) (if shapeA then bodyA mvar R X else bodyB mvar R X))
    (hne : (mvar == R) = false) (hp : (mvar == P) = false) (mt : PV) (rs : List PV) (others : Env) (ys : List PV)
    (h : runLoop ext loop P mvar mt rs others = .ok ys) :
    AllPairs (fun r y => matchVal ext mt r = .ok false → y = r) rs ys :=
  frameOf_of_shape (fn := { params := [], body := loop }) R X shapeA hshape (by simpa using hne) (by simpa using hp) ext mt rs others ys h

theorem Tie_frame_filter_rows : FrameOf Live.Py.loop_filter_rows "package" "matcher" :=
  frameOf_of_shape "r" _ true rfl (by simp) (by simp)
theorem Tie_frame_deduplicate : FrameOf Live.Py.loop_deduplicate "package" "resource_matcher" :=
  frameOf_of_shape "resource" _ true rfl (by simp) (by simp)
theorem Tie_frame_sort_rows : FrameOf Live.Py.loop_sort_rows "package" "matcher" :=
  frameOf_of_shape "rows" _ true rfl (by simp) (by simp)
theorem Tie_frame_find_replace : FrameOf Live.Py.loop_find_replace "package" "matcher" :=
  frameOf_of_shape "rows" _ true rfl (by simp) (by simp)
theorem Tie_frame_parallelize : FrameOf Live.Py.loop_parallelize "package" "matcher" :=
  frameOf_of_shape "res" _ true rfl (by simp) (by simp)
theorem Tie_frame_set_primary_key : FrameOf Live.Py.loop_set_primary_key "res_iter" "matcher" :=
  frameOf_of_shape "r" _ true rfl (by simp) (by simp)
theorem Tie_frame_update_resource : FrameOf Live.Py.loop_update_resource "res_iter" "matcher" :=
  frameOf_of_shape "r" _ true rfl (by simp) (by simp)
theorem Tie_frame_update_schema : FrameOf Live.Py.loop_update_schema "res_iter" "matcher" :=
  frameOf_of_shape "r" _ true rfl (by simp) (by simp)
theorem Tie_frame_delete_fields : FrameOf Live.Py.loop_delete_fields "package" "matcher" :=
  frameOf_of_shape "resource" _ false rfl (by simp) (by simp)
theorem Tie_frame_select_fields : FrameOf Live.Py.loop_select_fields "package" "matcher" :=
  frameOf_of_shape "resource" _ false rfl (by simp) (by simp)
theorem Tie_frame_rename_fields : FrameOf Live.Py.loop_rename_fields "package" "matcher" :=
  frameOf_of_shape "resource" _ false rfl (by simp) (by simp)
theorem Tie_frame_add_computed_field : FrameOf Live.Py.loop_add_computed_field "package" "matcher" :=
  frameOf_of_shape "resource" _ false rfl (by simp) (by simp)
theorem Tie_frame_unpivot : FrameOf Live.Py.loop_unpivot "package" "matcher" :=
  frameOf_of_shape "resource" _ false rfl (by simp) (by simp)

/-- the premise is satisfiable and the conclusion says something: a two-resource package, the matcher matching `b` only -/
example :
    let ext : Ext := fun f args => match f, args with
      | ".match", [_, .str n] => .ok (.bool (n == "b"))
      | "process_resource", [r, _] => .ok (.tuple [.str "processed", r])
      | _, _ => .error (.missingExt f)
    let res := fun (n : String) => PV.dict [(.str "res", .dict [(.str "name", .str n)])]
    runLoop ext Live.Py.loop_filter_rows.body "package" "matcher" .none [res "a", res "b"] [("condition", .none)]
      = .ok [res "a", .tuple [.str "processed", res "b"]] := by
  rfl

/-- the body of `delete_resource`'s loop: `if not match: yield R else: <drain R>` -/
def bodyC (mvar R : String) (D : E) : S := .ite (.not (matchCall mvar R)) (.yield (.var R)) (.expr D)

/-- the specification: the resources the matcher does not match, in order -/
def keepUnmatched (ext : Ext) (mt : PV) : List PV → Except Err (List PV)
  | [] => .ok []
  | r :: rs => do
    let m ← matchVal ext mt r
    let rest ← keepUnmatched ext mt rs
    pure (if m then rest else r :: rest)

/-- `collections.deque(r, maxlen=0)`: read the dropped stream to its end -/
def drainCall : E :=
  .call (.ext "deque") (.cons (.var "r") (.cons (.call .mkTuple (.cons (.const (.str "maxlen")) (.cons (.const (.int 0)) .nil))) .nil))

/-- the translated loop of `delete_resource`: if it completes, what comes out is exactly the list of the
resources the matcher does not match, in their order — nothing else is removed, nothing is added -/
theorem Tie_delete_resource_loop (ext : Ext) (mt : PV) (rs : List PV) (others : Env) (ys : List PV)
    (h : runLoop ext Live.Py.loop_delete_resource.body "package" "matcher" mt rs others = .ok ys) :
    keepUnmatched ext mt rs = .ok ys := by
  obtain ⟨c, st', hl, rfl⟩ := runLoop_ok ext (bodyC "matcher" "r" drainCall) "package" "matcher" "r" (by simp) mt rs others ys h
  rw [bodyC, exec_ite_not] at hl
  obtain ⟨zs, hzs, hk⟩ := dispatch_loop ext "matcher" "r" (.expr drainCall) drainCall (fun _ => []) (keepUnmatched ext mt · = .ok ·) mt
    (fun st => by simp [exec, bind])
    rfl
    (fun r rs m zs ys hmv hz hk => by
      cases m <;> simp at hz <;> simp [keepUnmatched, hmv, hk, hz, bind, Except.bind, pure, Except.pure])
    (by simp) rs _ (by simp) c st' hl
  rw [hzs]; exact hk

end Df.Tie
