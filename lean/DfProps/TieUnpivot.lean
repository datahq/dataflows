import DfProps.TieLoop
import DfProps.Util

/-!
# Tie (C17): `unpivot.unpivot_rows` **as written in /repo now**

    for row in rows:
        for unpivot_field in fields_to_unpivot:
            new_row = copy.deepcopy(unpivot_field['keys'])
            for field in fields_to_keep: new_row[field] = row[field]
            new_row[extra_value['name']] = row.get(unpivot_field['name'])
            yield new_row

`Tie_unpivot_rows`: the generator's value is `unpivotSpec`: for each input row in order and each unpivoted field in the order
of the configuration, one row made of the derived keys, the kept fields (in their order) and that cell's value — so the
number of emitted rows is |rows| × |fields_to_unpivot| (`unpivotSpec_length`), no cell is lost and none invented.
-/

namespace Df.Tie
open Df Df.Py

/-- `for field in fields_to_keep: new_row[field] = row[field]` as a fold -/
def keepFold (row : PV) : PV → List PV → Except Err PV
  | acc, [] => .ok acc
  | acc, f :: fs => do
    let v ← opGetitem [row, f]
    let acc' ← mutate "setitem" acc [f, v]
    keepFold row acc' fs

/-- the row emitted for one input row and one unpivoted field -/
def unpivotOne (row keep ev uf : PV) : Except Err PV := do
  let keys ← opGetitem [uf, .str "keys"]
  let ks ← iterOf keep
  let r1 ← keepFold row keys ks
  let evn ← opGetitem [ev, .str "name"]
  let ufn ← opGetitem [uf, .str "name"]
  let v ← opGet [row, ufn]
  mutate "setitem" r1 [evn, v]

def unpivotRowSpec (keep ev : PV) (ufs : List PV) (row : PV) : Except Err (List PV) := ufs.mapM (unpivotOne row keep ev)

def unpivotSpec (keep ev : PV) (ufs : List PV) : List PV → Except Err (List PV)
  | [] => .ok []
  | row :: rest => do
    let a ← unpivotRowSpec keep ev ufs row
    let b ← unpivotSpec keep ev ufs rest
    pure (a ++ b)

def keepStmt : S :=
  .mut "new_row" "setitem" (.cons (.var "field") (.cons (.call .getitem (.cons (.var "row") (.cons (.var "field") .nil))) .nil))

theorem keepFold_eq (row : PV) (fs : List PV) (acc : PV) :
    keepFold row acc fs = fs.foldlM (fun acc f => do let v ← opGetitem [row, f]; mutate "setitem" acc [f, v]) acc := by
  induction fs generalizing acc with
  | nil => rfl
  | cons f fs ih => simp only [keepFold, List.foldlM_cons, bind_assoc, ih]

/-- the innermost loop: `new_row` holds the row built so far; only `field` and `new_row` are assigned -/
def KeepInv (env0 : Env) (acc : PV) (env : Env) : Prop :=
  env.lookup "new_row" = some acc ∧ Frame ["field", "new_row"] env0 env

theorem keep_runs (ext : Ext) (row : PV) (fs : List PV) (acc : PV) (env : Env) (out : List PV)
    (hrow : env.lookup "row" = some row) (hnr : env.lookup "new_row" = some acc) :
    Runs Eq (fun _ => out) (KeepInv env) (keepFold row acc fs)
      (loopFor (exec ext keepStmt) (bind1 "field") fs { env := env, out := out }) := by
  have h := loopFor_foldlM (Q := Eq) (body := exec ext keepStmt) (bnd := bind1 "field") id
    (fun _ acc st => st.out = out ∧ KeepInv env acc st.env)
    (fun acc f => do let v ← opGetitem [row, f]; mutate "setitem" acc [f, v])
    (by
      intro f _ acc st ⟨ho, h1, h3⟩
      have h2 := (h3 "row" (by simp)).trans hrow
      refine Sim.imp (Runs.of_eq (O := fun _ => out) (P := KeepInv env) (fun acc' => ("new_row", acc') :: ("field", f) :: st.env) ?_
        (fun acc' _ => ⟨by simp, (h3.set _ (by simp)).set _ (by simp)⟩))
        (fun _ _ h => h) fun _ _ h => ⟨.inl h.1, h.2⟩
      simp only [keepStmt, bind1, exec, evalE, evalArgs, applyFn, builtinOp, Env.get, Env.set, lookup_cons, bind, Except.bind, h1, h2, ho, id,
        String.reduceEq, if_false, if_true]
      cases opGetitem [row, f] with
      | error e => rfl
      | ok v => cases mutate "setitem" acc [f, v] <;> rfl)
    fs acc { env := env, out := out } ⟨rfl, hnr, Frame.refl _ _⟩
  rwa [List.map_id, ← keepFold_eq] at h

theorem keep_loop (ext : Ext) (row : PV) (fs : List PV) (acc : PV) (env : Env) (out : List PV)
    (hrow : env.lookup "row" = some row) (hnr : env.lookup "new_row" = some acc) :
    (∃ e, loopFor (exec ext keepStmt) (bind1 "field") fs { env := env, out := out } = .error e ∧ keepFold row acc fs = .error e)
    ∨ (∃ env' acc', loopFor (exec ext keepStmt) (bind1 "field") fs { env := env, out := out } = .ok (.next, { env := env', out := out })
        ∧ keepFold row acc fs = .ok acc' ∧ env'.lookup "new_row" = some acc' ∧ env'.lookup "row" = some row
        ∧ (∀ x, x ≠ "field" → x ≠ "new_row" → env'.lookup x = env.lookup x)) := by
  have h := keep_runs ext row fs acc env out hrow hnr
  cases hk : keepFold row acc fs with
  | error e => rw [hk] at h; exact .inl ⟨e, h.of_error, rfl⟩
  | ok acc' =>
    rw [hk] at h
    obtain ⟨env', he, h1, h3⟩ := h.of_ok
    exact .inr ⟨env', acc', he, rfl, h1, (h3 _ (by simp)).trans hrow, fun x hx1 hx2 => h3 x (by simp [hx1, hx2])⟩

def ufBody : S :=
  .seq (.assign "new_row" (.call .deepcopy (.cons (.call .getitem (.cons (.var "unpivot_field") (.cons (.const (.str "keys")) .nil))) .nil)))
    (.seq (.forIn "field" (.var "fields_to_keep") keepStmt)
      (.seq (.mut "new_row" "setitem" (.cons (.call .getitem (.cons (.var "extra_value") (.cons (.const (.str "name")) .nil)))
          (.cons (.call .get (.cons (.var "row") (.cons (.call .getitem (.cons (.var "unpivot_field") (.cons (.const (.str "name")) .nil))) .nil))) .nil)))
        (.yield (.var "new_row"))))

theorem unpivot_body_is : Live.Py.unpivot_rows.body =
    .forIn "row" (.var "rows") (.forIn "unpivot_field" (.var "fields_to_unpivot") ufBody) := by rfl

def UEnv (keep ev : PV) (ufs : List PV) (env : Env) : Prop :=
  env.lookup "fields_to_unpivot" = some (.list ufs) ∧ env.lookup "fields_to_keep" = some keep ∧ env.lookup "extra_value" = some ev

theorem uf_step (ext : Ext) (row ev uf : PV) (ks : List PV) (env : Env) (out : List PV)
    (hrow : env.lookup "row" = some row) (hkeep : env.lookup "fields_to_keep" = some (.list ks)) (hev : env.lookup "extra_value" = some ev) :
    Runs Eq (fun r => out ++ [r]) (fun _ => Frame ["field", "new_row", "unpivot_field"] env) (unpivotOne row (.list ks) ev uf)
      (exec ext ufBody { env := ("unpivot_field", uf) :: env, out := out }) := by
  unfold ufBody unpivotOne
  refine Runs.seq (O := fun _ => out) (P := fun keys env1 => env1 = ("new_row", keys) :: ("unpivot_field", uf) :: env)
    (Runs.of_eq (fun keys => ("new_row", keys) :: ("unpivot_field", uf) :: env) ?_ (fun _ _ => rfl)) ?_
  · simp only [exec, evalE, evalArgs, applyFn, builtinOp, opDeepcopy, Env.get, Env.set, lookup_cons, bind, Except.bind, if_true]
    cases opGetitem [uf, PV.str "keys"] <;> rfl
  intro keys env1 h1
  subst h1
  have hL := keep_runs ext row ks keys (("new_row", keys) :: ("unpivot_field", uf) :: env) out
    (by simpa [lookup_cons] using hrow) (by simp)
  rw [← exec_forIn_var ext "field" "fields_to_keep" keepStmt _ ks (by simp [get_cons, get_of_lookup hkeep, Except.bind])] at hL
  refine Runs.seq (m := keepFold row keys ks) hL ?_
  intro r1 env2 ⟨h1, h3⟩
  have h2 : env2.lookup "row" = some row := by rw [h3 _ (by simp)]; simpa [lookup_cons] using hrow
  have hev2 : env2.lookup "extra_value" = some ev := by rw [h3 _ (by simp)]; simpa [lookup_cons] using hev
  have huf2 : env2.lookup "unpivot_field" = some uf := by rw [h3 _ (by simp)]; simp [lookup_cons]
  refine Runs.of_eq (fun r => ("new_row", r) :: env2) ?_
    (fun r _ => ((((Frame.refl _ env).set uf (by simp)).set keys (by simp)).trans (h3.mono (by simp))).set r (by simp))
  simp only [exec, evalE, evalArgs, applyFn, builtinOp, Env.get, Env.set, h1, h2, hev2, huf2, bind, Except.bind]
  cases opGetitem [ev, PV.str "name"] with
  | error e => rfl
  | ok evn =>
    cases opGetitem [uf, PV.str "name"] with
    | error e => rfl
    | ok ufn =>
      dsimp only
      cases opGet [row, ufn] with
      | error e => rfl
      | ok v =>
        dsimp only
        cases mutate "setitem" r1 [evn, v] <;> rfl

theorem uf_loop (ext : Ext) (ev : PV) (ks ufs : List PV) (row : PV) (env : Env) (out : List PV) (h : UEnv (.list ks) ev ufs env) :
    Runs Eq (fun rs => out ++ rs) (fun _ => UEnv (.list ks) ev ufs) (unpivotRowSpec (.list ks) ev ufs row)
      (exec ext (.forIn "unpivot_field" (.var "fields_to_unpivot") ufBody) { env := ("row", row) :: env, out := out }) := by
  have hg := loopFor_mapM (Q := Eq) (body := exec ext ufBody) (bnd := bind1 "unpivot_field") id (unpivotOne row (.list ks) ev) (fun r => [r])
    (fun env => UEnv (.list ks) ev ufs env ∧ env.lookup "row" = some row) ufs
    (fun uf _ env1 out1 ⟨hu, hr⟩ => (uf_step ext row ev uf ks env1 out1 hr hu.2.1 hu.2.2).mono
      (fun _ _ hf => ⟨⟨(hf _ (by simp)).trans hu.1, (hf _ (by simp)).trans hu.2.1, (hf _ (by simp)).trans hu.2.2⟩, (hf _ (by simp)).trans hr⟩))
    (("row", row) :: env) out
    ⟨⟨by simpa [lookup_cons] using h.1, by simpa [lookup_cons] using h.2.1, by simpa [lookup_cons] using h.2.2⟩, by simp⟩
  rw [List.map_id, ← exec_forIn_var ext "unpivot_field" "fields_to_unpivot" ufBody _ ufs
    (by simp [get_cons, get_of_lookup h.1, Except.bind])] at hg
  exact hg.imp (fun _ _ h => h) (fun rs => by simp) (fun _ _ h => h.1)

theorem unpivotSpec_eq (keep ev : PV) (ufs rows : List PV) :
    unpivotSpec keep ev ufs rows = (rows.mapM (unpivotRowSpec keep ev ufs)).map List.flatten := by
  induction rows with
  | nil => rfl
  | cons row rest ih =>
    simp only [unpivotSpec, ih, List.mapM_cons, bind, Except.bind, Except.map]
    cases unpivotRowSpec keep ev ufs row with
    | error e => rfl
    | ok a => cases List.mapM (unpivotRowSpec keep ev ufs) rest <;> rfl

theorem urows_loop (ext : Ext) (ev : PV) (ks ufs rows : List PV) (env : Env) (out : List PV) (h : UEnv (.list ks) ev ufs env) :
    Runs Eq (fun rss => out ++ rss.flatten) (fun _ => UEnv (.list ks) ev ufs) (rows.mapM (unpivotRowSpec (.list ks) ev ufs))
      (loopFor (exec ext (.forIn "unpivot_field" (.var "fields_to_unpivot") ufBody)) (bind1 "row") rows { env := env, out := out }) := by
  have hg := loopFor_mapM (Q := Eq) (body := exec ext (.forIn "unpivot_field" (.var "fields_to_unpivot") ufBody)) (bnd := bind1 "row") id
    (unpivotRowSpec (.list ks) ev ufs) id (UEnv (.list ks) ev ufs) rows
    (fun row _ env out h => uf_loop ext ev ks ufs row env out h) env out h
  rw [List.map_id] at hg
  exact hg.imp (fun _ _ h => h) (fun rss => by rw [List.flatMap_id]) (fun _ _ h => h)

/-- `unpivot_rows` as it is in the code is `unpivotSpec`, failures included -/
theorem Tie_unpivot_rows (ext : Ext) (rows ufs ks : List PV) (ev : PV) :
    callFn ext Live.Py.unpivot_rows [.list rows, .list ufs, .list ks, ev] = (unpivotSpec (.list ks) ev ufs rows).map PV.list := by
  have hg := urows_loop ext ev ks ufs rows
    [("extra_value", ev), ("fields_to_keep", .list ks), ("fields_to_unpivot", .list ufs), ("rows", .list rows)] []
    ⟨by simp [lookup_cons], by simp [lookup_cons], by simp⟩
  rw [← exec_forIn_var ext "row" "rows" _ _ rows (by simp [get_cons, Except.bind])] at hg
  rw [callFn_gen _ _ (by rfl), unpivotSpec_eq, unpivot_body_is]
  simp only [show Live.Py.unpivot_rows.params = ["rows", "fields_to_unpivot", "fields_to_keep", "extra_value"] from rfl, bindParams, Env.set,
    Except.bind]
  rw [hg.out_eq]
  cases List.mapM (unpivotRowSpec (.list ks) ev ufs) rows <;> rfl

/-- no cell lost, none invented: |rows| × |unpivoted fields| rows come out -/
theorem unpivotSpec_length (keep ev : PV) (ufs rows out : List PV) (h : unpivotSpec keep ev ufs rows = .ok out) :
    out.length = rows.length * ufs.length := by
  rw [unpivotSpec_eq] at h
  obtain ⟨outs, hm, rfl⟩ := (Except.map_eq_ok _ _ _).mp h
  exact mapM_ok_flatten_length (fun _ _ => mapM_ok_length) hm

end Df.Tie
