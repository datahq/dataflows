import DfModel.SortKey
import DfProps.TieBase

/-!
# Tie (C12): the keying generator of `sort_rows._sorter` **as written in /repo now**

    for row_num, row in enumerate(rows):
        key = key_calc(row) + '\x01{:08x}'.format(row_num)
        yield (key, row)

`Tie_sort_process`: for every list of rows the generator yields, in input order, every row exactly once, paired with
`key_calc(row)` followed by the rendered row number, the row numbers being 0, 1, 2, … — the shape of `Df.Sort.keyed`
(`fullKey (key r) i`) that `C12_*` are about (`Tie_sort_key` ties `key_calc` itself).  The two calls are externals: `key_calc`
(any function to text) and `str.format` on the constant template (any function of the row number); the template is part of the
anchored syntax, so a change of separator or width is a change of the translated function.
-/

namespace Df.Tie.SortProc
open Df Df.Py

def spBody : S :=
  .seq (.assign "key" (.call .add (.cons (.call (.ext "key_calc") (.cons (.var "row") .nil))
      (.cons (.call (.ext ".format") (.cons (.const (.str "\x01{:08x}")) (.cons (.var "row_num") .nil))) .nil))))
    (.yield (.call .mkTuple (.cons (.var "key") (.cons (.var "row") .nil))))

theorem sort_process_is : Live.Py.sort_process =
    { params := ["rows", "key_calc"], body := .forIn2 "row_num" "row" (.call .enumerate (.cons (.var "rows") .nil)) spBody, gen := true } := by
  rfl

def keyedPV (kc : PV → String) (fmt : Int → String) (ri : PV × Nat) : PV := .tuple [.str (kc ri.1 ++ fmt ri.2), ri.1]

theorem sp_loop (ext : Ext) (kc : PV → String) (fmt : Int → String) (hf : ∀ i : Nat, ext ".format" [.str "\x01{:08x}", .int i] = .ok (.str (fmt i))) :
    ∀ (rows : List PV) (i : Nat) (env : Env) (out : List PV), (∀ r ∈ rows, ext "key_calc" [r] = .ok (.str (kc r))) →
    ∃ env', loopFor (exec ext spBody) (bind2 "row_num" "row") (enumFrom i rows) (St.mk env out)
      = .ok (.next, St.mk env' (out ++ (rows.zipIdx i).map (keyedPV kc fmt))) := by
  intro rows
  induction rows with
  | nil => intro i env out _; exact ⟨env, by simp [enumFrom, loopFor]⟩
  | cons r rest ih =>
    intro i env out hk
    obtain ⟨env', h⟩ := ih (i + 1) (("key", .str (kc r ++ fmt i)) :: ("row", r) :: ("row_num", .int i) :: env) (out ++ [keyedPV kc fmt (r, i)])
      (fun q hq => hk q (by simp [hq]))
    refine ⟨env', ?_⟩
    have hs : exec ext spBody (St.mk (("row", r) :: ("row_num", .int i) :: env) out) = .ok (.next,
        St.mk (("key", .str (kc r ++ fmt i)) :: ("row", r) :: ("row_num", .int i) :: env) (out ++ [keyedPV kc fmt (r, i)])) := by
      simp [pyl, spBody, hk r (by simp), hf i, keyedPV]
    simp only [enumFrom, loopFor, bind2, Env.set, bind, Except.bind, hs]
    rw [h]
    simp [List.zipIdx_cons, List.append_assoc]

/-- every row once, in input order, keyed by `key_calc(row)` followed by its rendered position 0, 1, 2, … -/
theorem Tie_sort_process (ext : Ext) (kc : PV → String) (fmt : Int → String) (rows : List PV) (kcv : PV)
    (hk : ∀ r ∈ rows, ext "key_calc" [r] = .ok (.str (kc r))) (hf : ∀ i : Nat, ext ".format" [.str "\x01{:08x}", .int i] = .ok (.str (fmt i))) :
    callFn ext Live.Py.sort_process [.list rows, kcv] = .ok (.list (rows.zipIdx.map (keyedPV kc fmt))) := by
  obtain ⟨env', h⟩ := sp_loop ext kc fmt hf rows 0 [("key_calc", kcv), ("rows", .list rows)] [] hk
  rw [sort_process_is]
  simp [pyl, iterLazy_list, h]

/-- the keyed list has one entry per row and carries the rows unchanged, in order -/
theorem keyed_rows (kc : PV → String) (fmt : Int → String) (rows : List PV) :
    (rows.zipIdx.map (keyedPV kc fmt)).length = rows.length ∧
    (rows.zipIdx.map (keyedPV kc fmt)).map (fun t => match t with | .tuple [_, r] => r | _ => .none) = rows := by
  refine ⟨by simp, ?_⟩
  rw [List.map_map]
  exact List.zipIdx_map_fst 0 rows

/-- code points of a text, as the `Df.Sort` model orders them -/
def cp (s : String) : List Nat := s.toList.map Char.toNat

/-- with `'\\x01{:08x}'.format(i)` rendering the separator and eight hex digits (the correspondence compares the real
rendering with `hexW 8`), the keys the generator pairs the rows with are the model's `fullKey`s: the keyed list is
`Df.Sort.keyed` -/
theorem keyed_is_model (kc : PV → String) (fmt : Int → String)
    (hfmt : ∀ i : Nat, cp (fmt i) = Df.Sort.sep :: Df.Sort.hexW 8 i) (rows : List PV) :
    rows.zipIdx.map (fun ri => (cp (kc ri.1 ++ fmt ri.2), ri.1)) = Df.Sort.keyed (fun r => cp (kc r)) rows := by
  unfold Df.Sort.keyed Df.Sort.fullKey
  apply List.map_congr_left
  intro ri _
  have : cp (kc ri.1 ++ fmt ri.2) = cp (kc ri.1) ++ cp (fmt ri.2) := by simp [cp, String.toList_append]
  rw [this, hfmt]

end Df.Tie.SortProc
