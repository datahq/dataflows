import DfModel.Stats
import DfProps.Assoc

/-!
# C09 — dump statistics describe the bytes on disk
-/

namespace Df.Stats

theorem lookup_insert (k q : String) (v : T) (kvs : List (String × T)) : lookup q (insert k v kvs) = if k = q then some v else lookup q kvs :=
  get_put_of_eqns (get := fun l q => lookup q l) (put := fun l k v => insert k v l) (fun _ _ _ _ => rfl) (fun _ _ => rfl)
    (fun _ _ _ _ _ => rfl) kvs k q v

/-- **Setter / getter are inverse on dotted names**, whatever is already in the descriptor. -/
theorem C09_get_set : ∀ (path : List String) (kvs : List (String × T)) (v : T), path ≠ [] →
    getAttr (setAttr kvs path v) path = some v := by
  intro path
  induction path with
  | nil => intro kvs v h; exact absurd rfl h
  | cons p rest ih =>
    intro kvs v _
    cases rest with
    | nil => simp [setAttr, getAttr, lookup_insert]
    | cons q qs =>
      simp only [setAttr]
      split
      · rename_i inner _
        simp only [getAttr, lookup_insert, if_true]
        exact ih inner v (by simp)
      · simp only [getAttr, lookup_insert, if_true]
        exact ih [] v (by simp)

theorem C09_get_inc (path : List String) (kvs : List (String × T)) (n : Nat) (h : path ≠ []) :
    numOf (getAttr (incAttr kvs path n) path) = numOf (getAttr kvs path) + n := by
  simp [incAttr, C09_get_set path kvs _ h, numOf]

/-- a counter at a different top-level name is not disturbed -/
theorem C09_set_other (p q : String) (rest rest' : List String) (kvs : List (String × T)) (v : T) (h : q ≠ p) :
    getAttr (setAttr kvs (p :: rest) v) (q :: rest') = getAttr kvs (q :: rest') := by
  cases rest with
  | nil =>
    cases rest' with
    | nil => simp [setAttr, getAttr, lookup_insert, h.symm]
    | cons a as => simp [setAttr, getAttr, lookup_insert, h.symm]
  | cons b bs =>
    simp only [setAttr]
    split <;> (cases rest' with
      | nil => simp [getAttr, lookup_insert, h.symm]
      | cons a as => simp [getAttr, lookup_insert, h.symm])

/-- a disabled counter leaves the descriptor alone -/
theorem C09_disabled (kvs : List (String × T)) (n : Nat) (v : T) : incC kvs none n = kvs ∧ setC kvs none v = kvs :=
  ⟨rfl, rfl⟩

def getC (kvs : List (String × T)) (c : Counter) : Nat :=
  match c with | some p => numOf (getAttr kvs p) | none => 0

theorem getC_incC (kvs : List (String × T)) (p : List String) (hp : p ≠ []) (n : Nat) :
    getC (incC kvs (some p) n) (some p) = getC kvs (some p) + n := by
  simp [getC, incC, C09_get_inc p kvs n hp]

theorem getC_incC_other (kvs : List (String × T)) (p q : String) (pr qr : List String) (n : Nat) (h : q ≠ p) :
    getC (incC kvs (some (p :: pr)) n) (some (q :: qr)) = getC kvs (some (q :: qr)) := by
  simp only [getC, incC, incAttr, C09_set_other p q pr qr _ _ h]

/-- **Package totals are the sums over the resources**: with the byte and row counters at
different top-level names (any dotted continuation), after accounting any number of
resources the package counters have grown by the total size and the total row count. -/
theorem C09_totals (nm : Names) (pb pr : String) (pbr prr : List String)
    (hb : nm.pkgBytes = some (pb :: pbr)) (hr : nm.pkgRows = some (pr :: prr)) (hne : pb ≠ pr) :
    ∀ (files : List (List (String × T) × FileInfo)) (pkg : List (String × T)),
      getC (accountAll nm pkg files).1 nm.pkgBytes = getC pkg nm.pkgBytes + (files.map (·.2.size)).sum ∧
      getC (accountAll nm pkg files).1 nm.pkgRows = getC pkg nm.pkgRows + (files.map (·.2.rows)).sum
  | [], pkg => by simp [accountAll]
  | (res, f) :: rest, pkg => by
    obtain ⟨ih1, ih2⟩ := C09_totals nm pb pr pbr prr hb hr hne rest (account nm pkg res f).1
    simp only [accountAll, List.map_cons, List.sum_cons, ih1, ih2]
    -- each increment reaches its own counter and leaves the other alone
    simp only [account, hb, hr, getC_incC_other _ pr pb prr pbr _ hne, getC_incC_other _ pb pr pbr prr _ hne.symm,
      getC_incC _ _ (List.cons_ne_nil _ _), Nat.add_assoc, and_self]

/-- **Per resource**: the recorded byte count, row count and hash are those of its file
(counters at three different top-level names, starting from a descriptor without them). -/
theorem C09_resource (nm : Names) (b r h : String) (br rr hr : List String)
    (hb : nm.resBytes = some (b :: br)) (hrw : nm.resRows = some (r :: rr)) (hh : nm.resHash = some (h :: hr))
    (hbr : b ≠ r) (hbh : b ≠ h) (hrh : r ≠ h)
    (pkg res : List (String × T)) (f : FileInfo)
    (h0 : getAttr res (b :: br) = none) (h1 : getAttr res (r :: rr) = none) :
    let res' := (account nm pkg res f).2
    getC res' nm.resBytes = f.size ∧ getC res' nm.resRows = f.rows ∧
      getAttr res' (h :: hr) = some (.str f.digest) := by
  intro res'
  simp only [res', account, hb, hrw, hh, getC, incC, setC, incAttr]
  refine ⟨?_, ?_, ?_⟩
  · rw [C09_set_other r b rr br _ _ hbr, C09_set_other h b hr br _ _ hbh, C09_get_set _ _ _ (by simp)]
    simp [numOf, h0]
  · rw [C09_get_set _ _ _ (by simp)]
    rw [C09_set_other h r hr rr _ _ hrh, C09_set_other b r br rr _ _ (fun e => hbr e.symm)]
    simp [numOf, h1]
  · rw [C09_set_other r h rr hr _ _ (fun e => hrh e.symm), C09_get_set _ _ _ (by simp)]

example : numOf (getAttr (incAttr (incAttr [] ["stats", "bytes"] 26) ["stats", "bytes"] 6) ["stats", "bytes"]) = 32 := by
  decide

end Df.Stats
