import DfProps.TieRow
import DfProps.Util

/-!
# Tie (C17): `filter_rows.old_style_conditions` **as written in /repo now** = `oldStyleCond`

The condition `filter_rows(equals=[...], not_equals=[...])` builds is
`any(row[k] == v for o in equals for k, v in o.items()) or any(row[k] != v for o in not_equals for k, v in o.items())`,
re-translated from processors/filter_rows.py on every run (`Live.Py.filter_conditions`).

* `Tie_conditions_pv`: evaluating it = `condPV` — a left-to-right search with Python's short circuit: the first pair that
  decides ends the search, a `KeyError` is raised only if a missing key is actually reached.
* `Tie_conditions_model`: on cells that are null / booleans / integers / text (`Simple`), `condPV` on the embedded row and
  conditions agrees with the `Steps` model's `oldStyleCond` (the condition `C17_filter_eq_filter` is instantiated with): the same
  boolean, or a failure on both sides.  (Decimal cells compare through `Val.pyEq` in the model; the embedding has no decimals,
  they are covered by the `step` correspondence only.)
-/

namespace Df.Tie
open Df Df.Py

/-- `any(row[k] <op> v for k, v in o.items())`, `neg` = the operator is `!=` -/
def anyCmpPV (neg : Bool) (row : PV) : List (PV × PV) → Except Err Bool
  | [] => .ok false
  | (k, v) :: rest => do
    let x ← opGetitem [row, k]
    if (PV.beq x v) != neg then pure true else anyCmpPV neg row rest

/-- `any(... for o in conds for k, v in o.items())` -/
def anyAnyPV (neg : Bool) (row : PV) : List PV → Except Err Bool
  | [] => .ok false
  | .dict kvs :: rest => do
    if (← anyCmpPV neg row kvs) then pure true else anyAnyPV neg row rest
  | .counter kvs :: rest => do
    if (← anyCmpPV neg row kvs) then pure true else anyAnyPV neg row rest
  | _ :: _ => .error (.typeError "items")

def condPV (row : PV) (equals notEquals : List PV) : Except Err Bool := do
  if (← anyAnyPV false row equals) then pure true else anyAnyPV true row notEquals

def cmpE (neg : Bool) : E :=
  .call (if neg then .ne else .eq) (.cons (.call .getitem (.cons (.var "row") (.cons (.var "k") .nil))) (.cons (.var "v") .nil))

def innerE (neg : Bool) : E := .comp2 .any (cmpE neg) "k" "v" (.call .items (.cons (.var "o") .nil)) (.const (.bool true))
def outerE (neg : Bool) (src : String) : E := .comp .any (innerE neg) "o" (.var src) (.const (.bool true))

theorem cmpE_eval (ext : Ext) (neg : Bool) (env : Env) (row k v : PV) (hrow : Env.get env "row" = .ok row) :
    evalE ext (("v", v) :: ("k", k) :: env) (cmpE neg) = (opGetitem [row, k]).map (fun x => PV.bool ((PV.beq x v) != neg)) := by
  cases neg <;>
  · simp only [cmpE, evalE, evalArgs, get_cons, hrow, applyFn, builtinOp, bind, Except.bind, Bool.false_eq_true, String.reduceEq, if_false,
      if_true]
    cases opGetitem [row, k] <;> simp [Except.map, opEq, opNe]

/-- `any(...)` over a comprehension whose element is a boolean `p a` (or a failure): the left-to-right search `F` -/
theorem compLoop_any {α} (body : PV → Except Err (Option PV)) (g : α → PV) (p : α → Except Err Bool) (F : List α → Except Err Bool)
    (hb : ∀ a, body (g a) = (p a).map (fun b => some (.bool b)))
    (hnil : F [] = .ok false) (hcons : ∀ a rest, F (a :: rest) = p a >>= fun b => if b then pure true else F rest) (xs : List α) :
    compLoop .any body (xs.map g) [] = (F xs).map PV.bool := by
  induction xs with
  | nil => rw [hnil]; rfl
  | cons a rest ih =>
    rw [List.map_cons, compLoop, hb, hcons]
    cases p a with
    | error e => rfl
    | ok b =>
      cases b
      · exact ih
      · rfl

/-- what one condition object contributes: a search through its pairs; anything else has no `.items()` -/
def anyOfPV (neg : Bool) (row : PV) : PV → Except Err Bool
  | .dict kvs => anyCmpPV neg row kvs
  | .counter kvs => anyCmpPV neg row kvs
  | _ => .error (.typeError "items")

theorem inner_loop (ext : Ext) (neg : Bool) (env : Env) (row : PV) (hrow : Env.get env "row" = .ok row) (kvs : List (PV × PV)) :
    compLoop .any (fun p => do
        match p with
        | .tuple [a, b] =>
          let env' := (env.set "k" a).set "v" b
          let c ← evalE ext env' (.const (.bool true))
          if c.truthy then (do let r ← evalE ext env' (cmpE neg); pure (some r)) else pure Option.none
        | _ => .error (.typeError "cannot unpack")) (kvs.map (fun kv => PV.tuple [kv.1, kv.2])) []
      = (anyCmpPV neg row kvs).map PV.bool := by
  refine compLoop_any _ _ (fun kv => (opGetitem [row, kv.1]).map (fun x => (PV.beq x kv.2) != neg)) (anyCmpPV neg row) (fun kv => ?_) rfl
    (fun kv rest => ?_) kvs
  · simp only [Env.set, evalE, PV.truthy, if_true, bind, Except.bind, cmpE_eval ext neg env row kv.1 kv.2 hrow]
    cases opGetitem [row, kv.1] <;> rfl
  · rw [anyCmpPV]; cases opGetitem [row, kv.1] <;> rfl

theorem innerE_eval (ext : Ext) (neg : Bool) (env : Env) (row o : PV) (hrow : Env.get env "row" = .ok row) (ho : Env.get env "o" = .ok o) :
    evalE ext env (innerE neg) = (anyOfPV neg row o).map PV.bool := by
  unfold innerE
  rw [evalE, evalE_items ho]
  cases o with
  | dict kvs => exact inner_loop ext neg env row hrow kvs
  | counter kvs => exact inner_loop ext neg env row hrow kvs
  | _ => rfl

theorem outerE_eval (ext : Ext) (neg : Bool) (src : String) (env : Env) (row : PV) (conds : List PV)
    (hrow : Env.get env "row" = .ok row) (hsrc : Env.get env src = .ok (.list conds)) :
    evalE ext env (outerE neg src) = (anyAnyPV neg row conds).map PV.bool := by
  unfold outerE
  rw [evalE]
  simp only [evalE, hsrc, iterOf, bind, Except.bind]
  rw [← List.map_id conds, compLoop_any _ id (anyOfPV neg row) (anyAnyPV neg row)
    (fun o => by
      have := innerE_eval ext neg (("o", o) :: env) row o (by simpa [get_cons] using hrow) (by simp [get_cons])
      simp only [id, Env.set, PV.truthy, if_true, this]
      cases anyOfPV neg row o <;> rfl)
    rfl (fun o rest => by cases o <;> first | rfl | (rw [anyAnyPV]; rfl)), List.map_id]

theorem filter_conditions_is : Live.Py.filter_conditions =
  { params := ["row", "equals", "not_equals"], body := .ret (.or (outerE false "equals") (outerE true "not_equals")), gen := false } := by rfl

/-- the condition as written = `condPV` -/
theorem Tie_conditions_pv (ext : Ext) (row : PV) (equals notEquals : List PV) :
    callFn ext Live.Py.filter_conditions [row, .list equals, .list notEquals] = (condPV row equals notEquals).map PV.bool := by
  rw [filter_conditions_is]
  unfold callFn
  have h1 := outerE_eval ext false "equals" [("not_equals", PV.list notEquals), ("equals", PV.list equals), ("row", row)] row equals
    (by simp [get_cons]) (by simp [get_cons])
  have h2 := outerE_eval ext true "not_equals" [("not_equals", PV.list notEquals), ("equals", PV.list equals), ("row", row)] row notEquals
    (by simp [get_cons]) (by simp [get_cons])
  simp only [bindParams, Env.set, exec, bind, Except.bind]
  rw [evalE, h1]
  simp only [condPV, bind, Except.bind]
  cases anyAnyPV false row equals with
  | error e => simp [Except.map]
  | ok b =>
    cases b
    · simp only [Except.map, PV.truthy, Bool.false_eq_true, if_false, h2]
      cases anyAnyPV true row notEquals <;> simp
    · simp [Except.map, PV.truthy, pure, Except.pure]

/-- cells that have a counterpart among the embedded Python values -/
def Simple : Val → Bool
  | .null => true
  | .bool _ => true
  | .int _ => true
  | .str _ => true
  | _ => false

def embS : Val → PV
  | .null => .none
  | .bool b => .bool b
  | .int i => .int i
  | .str s => .str s
  | .dec _ _ => .opaque "decimal" ""
  | .other t r => .opaque t r

/-- Python's `==` on the embedded values is the model's `pyEq` (`True == 1`, `None != 0`, text only equals text) -/
theorem pyEq_emb (a b : Val) (ha : Simple a = true) (hb : Simple b = true) : PV.beq (embS a) (embS b) = Val.pyEq a b := by
  cases a <;> cases b <;> simp [Simple] at ha hb <;> simp [embS, PV.beq, Val.pyEq, Val.num?, decEq]
  case bool.bool x y => cases x <;> cases y <;> simp
  case str.str x y => rw [Bool.eq_iff_iff]; simp

def Agree : Except Err Bool → Except Err Bool → Prop
  | .ok a, .ok b => a = b
  | .error _, .error _ => True
  | _, _ => False

/-- `any(row[k] <op> v …)` of the model, for either operator -/
def anyCmp (neg : Bool) (row : Row) : List (String × Val) → Except Err Bool
  | [] => .ok false
  | (k, v) :: rest => do
    let x ← Row.index row k
    if (x.pyEq v) != neg then pure true else anyCmp neg row rest

theorem anyCmp_eq_ne (row : Row) (ps : List (String × Val)) : anyCmp false row ps = anyEq row ps ∧ anyCmp true row ps = anyNe row ps := by
  induction ps with
  | nil => exact ⟨rfl, rfl⟩
  | cons p rest ih =>
    obtain ⟨k, v⟩ := p
    simp [anyCmp, anyEq, anyNe, ih.1, ih.2]

theorem anyCmp_append (neg : Bool) (row : Row) (a b : List (String × Val)) :
    anyCmp neg row (a ++ b) = (do if (← anyCmp neg row a) then pure true else anyCmp neg row b) := by
  induction a with
  | nil => simp [anyCmp, bind, Except.bind]
  | cons p rest ih =>
    obtain ⟨k, v⟩ := p
    simp only [List.cons_append, anyCmp, bind, Except.bind]
    cases Row.index row k with
    | error e => rfl
    | ok x =>
      simp only []
      by_cases h : ((x.pyEq v) != neg) = true
      · simp [h, pure, Except.pure]
      · have h' : ((x.pyEq v) != neg) = false := by simpa using h
        simp only [h', Bool.false_eq_true, if_false]
        exact ih

def pairsPV (ps : List (String × Val)) : List (PV × PV) := ps.map (fun kv => (PV.str kv.1, embS kv.2))

theorem getitem_emb (r : Row) (k : String) :
    opGetitem [rowPV embS r, .str k] = match Row.get? r k with
      | some v => .ok (embS v)
      | none => .error (.keyError "key") := by
  simp only [opGetitem, rowPV, lookup_str]
  cases Row.get? r k <;> rfl

theorem anyCmp_agree (neg : Bool) (r : Row) (hr : ∀ kv ∈ r, Simple kv.2 = true) (ps : List (String × Val))
    (hps : ∀ kv ∈ ps, Simple kv.2 = true) :
    Agree (anyCmpPV neg (rowPV embS r) (pairsPV ps)) (anyCmp neg r ps) := by
  induction ps with
  | nil => simp [pairsPV, anyCmpPV, anyCmp, Agree]
  | cons p rest ih =>
    obtain ⟨k, v⟩ := p
    have hv : Simple v = true := hps (k, v) (by simp)
    have ih' := ih (fun kv hkv => hps kv (by simp [hkv]))
    simp only [pairsPV, List.map_cons, anyCmpPV, anyCmp, getitem_emb, Row.index, bind, Except.bind]
    cases hg : Row.get? r k with
    | none => simp [Agree]
    | some x =>
      have hx : Simple x = true := hr (k, x) (Row.mem_of_get? hg)
      simp only [pyEq_emb x v hx hv]
      by_cases hb : ((x.pyEq v) != neg) = true
      · simp [hb, Agree, pure, Except.pure]
      · have hb' : ((x.pyEq v) != neg) = false := by simpa using hb
        simp only [hb', Bool.false_eq_true, if_false]
        exact ih'

theorem agree_iff_sim {a b : Except Err Bool} : Agree a b ↔ Sim AnyErr Eq a b := by
  cases a <;> cases b <;> exact Iff.rfl

theorem Agree.or {a a' b b' : Except Err Bool} (h1 : Agree a a') (h2 : Agree b b') :
    Agree (do if (← a) then pure true else b) (do if (← a') then pure true else b') :=
  agree_iff_sim.2 <| Sim.bind (agree_iff_sim.1 h1) fun x _ hxy => by
    subst hxy
    cases x
    · exact agree_iff_sim.1 h2
    · exact rfl

theorem anyAny_agree (neg : Bool) (r : Row) (hr : ∀ kv ∈ r, Simple kv.2 = true) (conds : List (List (String × Val)))
    (hc : ∀ ps ∈ conds, ∀ kv ∈ ps, Simple kv.2 = true) :
    Agree (anyAnyPV neg (rowPV embS r) (conds.map (fun ps => PV.dict (pairsPV ps)))) (anyCmp neg r conds.flatten) := by
  induction conds with
  | nil => trivial
  | cons ps rest ih =>
    rw [List.map_cons, anyAnyPV, List.flatten_cons, anyCmp_append]
    exact (anyCmp_agree neg r hr ps (hc ps (by simp))).or (ih (fun qs hqs => hc qs (by simp [hqs])))

/-- the condition of the code on embedded rows = the condition of the model: the same boolean, or a failure on both sides -/
theorem Tie_conditions_model (r : Row) (hr : ∀ kv ∈ r, Simple kv.2 = true) (equals notEquals : List (List (String × Val)))
    (he : ∀ ps ∈ equals, ∀ kv ∈ ps, Simple kv.2 = true) (hn : ∀ ps ∈ notEquals, ∀ kv ∈ ps, Simple kv.2 = true) :
    Agree (condPV (rowPV embS r) (equals.map (fun ps => PV.dict (pairsPV ps))) (notEquals.map (fun ps => PV.dict (pairsPV ps))))
      (oldStyleCond equals.flatten notEquals.flatten r) := by
  have h1 := anyAny_agree false r hr equals he
  have h2 := anyAny_agree true r hr notEquals hn
  rw [(anyCmp_eq_ne _ _).1] at h1
  rw [(anyCmp_eq_ne _ _).2] at h2
  exact h1.or h2

/-- non-vacuity: a row and conditions inside the hypotheses, on which the condition holds through the second disjunct -/
example : oldStyleCond [("a", Val.int 2)] [("b", Val.str "x")] [("a", Val.int 1), ("b", Val.null)] = .ok true := by rfl

end Df.Tie
