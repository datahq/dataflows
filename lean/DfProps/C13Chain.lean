import DfProps.C13
import DfProps.C14
import DfModel.LoadChain

/-!
# C13 — the wrapper chain of `load`: cast, then strip, then limit

`limit_rows = n` yields exactly the first n rows *that the caster emits*: dropped rows do not
count, rows behind the n-th emitted row are never looked at.  All statements hold for every cast
function, every table, every n.
-/

namespace Df.Load
open Df

variable (cast : Cast)

/-- Whenever the caster alone succeeds on the whole table, the lazy chain yields the limiter's
cut of its output. -/
theorem chain_of_validate (pol : Policy) (res : String) (fields : List String) (post : Row → Row) (n : Nat) :
    ∀ (rows : List Row) (i c : Nat) (out : List Row), c < n →
      validateFrom cast pol res fields i rows = .ok out →
      chainLoop cast pol res fields post n i c rows = .ok (limitLoop n c (out.map post)) := by
  intro rows
  induction rows with
  | nil => intro i c out _ h; cases h; rfl
  | cons r rs ih =>
    intro i c out hc h
    rw [validateFrom] at h
    rw [chainLoop]
    generalize castRow cast pol res i fields r = cr at h ⊢
    cases cr with
    | error e => exact nomatch h
    | ok ro =>
      obtain ⟨row', okay⟩ := ro
      cases htl : validateFrom cast pol res fields (i + 1) rs with
      | error e => rw [htl] at h; exact nomatch h
      | ok tail =>
        rw [htl] at h
        cases okay
        · cases h; exact ih _ _ _ hc htl
        · cases h
          show (if c + 1 ≥ n then _ else _) = Except.ok (limitLoop n c (post row' :: tail.map post))
          rw [limitLoop]
          by_cases hge : c + 1 ≥ n
          · rw [if_pos hge, if_pos hge]
          · rw [if_neg hge, if_neg hge, ih _ _ _ (Nat.lt_of_not_le hge) htl]


theorem loadChain_of_validate (pol : Policy) (res : String) (fields : List String) (post : Row → Row)
    (n : Nat) (rows out : List Row) (h : schemaValidator cast pol res fields rows = .ok out) :
    loadChain cast pol res fields post (some n) rows = .ok ((out.map post).take n) := by
  rw [← C13_limit]
  cases n with
  | zero => rfl
  | succ k => exact chain_of_validate cast pol res fields post _ rows 0 0 out (Nat.succ_pos k) h

/-- **on_error = drop**: `limit_rows = n` yields exactly the first n of the rows that cast — as many as
n whenever that many rows cast, wherever the offending rows are. -/
theorem C13_chain_drop (res : String) (fields : List String) (hnd : fields.Nodup) (post : Row → Row)
    (n : Nat) (rows : List Row) :
    loadChain cast .drop res fields post (some n) rows =
      .ok ((((rows.filter (allCastable cast fields)).map (fun r => rowOut cast .drop fields r r)).map post).take n) :=
  loadChain_of_validate cast .drop res fields post n rows _ (C14_drop_exact cast res fields hnd 0 rows)

theorem C13_chain_drop_count (res : String) (fields : List String) (hnd : fields.Nodup) (post : Row → Row)
    (n : Nat) (rows out : List Row) (h : loadChain cast .drop res fields post (some n) rows = .ok out) :
    out.length = min n (rows.filter (allCastable cast fields)).length := by
  rw [C13_chain_drop cast res fields hnd post n rows] at h
  cases h
  simp

/-- **on_error = ignore / clear**: no row is dropped, so the first n incoming rows come out -/
theorem C13_chain_ignore (res : String) (fields : List String) (hnd : fields.Nodup) (post : Row → Row)
    (n : Nat) (rows : List Row) :
    loadChain cast .ignore res fields post (some n) rows =
      .ok ((rows.take n).map (fun r => post (rowOut cast .ignore fields r r))) := by
  rw [loadChain_of_validate cast .ignore res fields post n rows _ (C14_ignore_keeps cast res fields hnd 0 rows),
    List.map_map, List.map_take]
  rfl

theorem C13_chain_clear (res : String) (fields : List String) (hnd : fields.Nodup) (post : Row → Row)
    (n : Nat) (rows : List Row) :
    loadChain cast .clear res fields post (some n) rows =
      .ok ((rows.take n).map (fun r => post (rowOut cast .clear fields r r))) := by
  rw [loadChain_of_validate cast .clear res fields post n rows _ (C14_clear_exact cast res fields hnd 0 rows),
    List.map_map, List.map_take]
  rfl

theorem chainLoop_raise_cons (res : String) (fields : List String) (hnd : fields.Nodup) (post : Row → Row)
    (n i c : Nat) (r : Row) (rs : List Row) :
    chainLoop cast .raise res fields post n i c (r :: rs) =
      if allCastable cast fields r then
        if c + 1 ≥ n then .ok [post (rowOut cast .raise fields r r)]
        else match chainLoop cast .raise res fields post n (i + 1) (c + 1) rs with
          | .error e => .error e
          | .ok tail => .ok (post (rowOut cast .raise fields r r) :: tail)
      else .error (.validation res i) := by
  rw [chainLoop, castRow_eq cast .raise res i fields hnd, okayOut_const cast .raise i false fun _ => rfl]
  cases allCastable cast fields r <;> rfl

theorem chain_raise_ok (res : String) (fields : List String) (hnd : fields.Nodup) (post : Row → Row) :
    ∀ (rows : List Row) (i c k : Nat), (∀ r ∈ rows.take (k + 1), allCastable cast fields r = true) →
      chainLoop cast .raise res fields post (c + k + 1) i c rows =
        .ok ((rows.take (k + 1)).map (fun r => post (rowOut cast .raise fields r r))) := by
  intro rows
  induction rows with
  | nil => intros; rfl
  | cons r rs ih =>
    intro i c k hall
    rw [chainLoop_raise_cons cast res fields hnd, hall r List.mem_cons_self, if_pos rfl]
    cases k with
    | zero => rw [if_pos (Nat.le_refl _)]; rfl
    | succ k =>
      rw [if_neg (by omega), Nat.add_right_comm c]
      exact (ih (i + 1) (c + 1) k fun x hx => hall x (List.mem_cons_of_mem _ hx)) ▸ rfl

/-- **on_error = raise, no offending row among the first n**: exactly the first n rows, cast; whatever
lies behind them (offending or not) is never looked at. -/
theorem C13_chain_raise_ok (res : String) (fields : List String) (hnd : fields.Nodup) (post : Row → Row)
    (n : Nat) (rows : List Row) (hall : ∀ r ∈ rows.take n, allCastable cast fields r = true) :
    loadChain cast .raise res fields post (some n) rows =
      .ok ((rows.take n).map (fun r => post (rowOut cast .raise fields r r))) := by
  cases n with
  | zero => rfl
  | succ k => exact (Nat.zero_add k ▸ chain_raise_ok cast res fields hnd post rows 0 0 k hall :)

theorem chain_raise_bad (res : String) (fields : List String) (hnd : fields.Nodup) (post : Row → Row) (n : Nat) :
    ∀ (pre : List Row) (bad : Row) (rest : List Row) (i c : Nat), c + pre.length < n →
      (∀ r ∈ pre, allCastable cast fields r = true) → allCastable cast fields bad = false →
      chainLoop cast .raise res fields post n i c (pre ++ bad :: rest) = .error (.validation res (i + pre.length)) := by
  intro pre
  induction pre with
  | nil =>
    intro bad rest i c _ _ hb
    rw [List.nil_append, chainLoop_raise_cons cast res fields hnd, hb]; rfl
  | cons r rs ih =>
    intro bad rest i c hc hall hb
    rw [List.length_cons] at hc
    rw [List.cons_append, chainLoop_raise_cons cast res fields hnd, hall r List.mem_cons_self, if_pos rfl,
      if_neg (by omega), ih bad rest (i + 1) (c + 1) (by omega) (fun x hx => hall x (List.mem_cons_of_mem _ hx)) hb,
      List.length_cons, Nat.add_right_comm, Nat.add_assoc]

/-- **on_error = raise, an offending row among the first n**: the load fails with that row's index -/
theorem C13_chain_raise_bad (res : String) (fields : List String) (hnd : fields.Nodup) (post : Row → Row)
    (n : Nat) (pre : List Row) (bad : Row) (rest : List Row) (hlen : pre.length < n)
    (hall : ∀ r ∈ pre, allCastable cast fields r = true) (hb : allCastable cast fields bad = false) :
    loadChain cast .raise res fields post (some n) (pre ++ bad :: rest) = .error (.validation res pre.length) := by
  cases n with
  | zero => exact nomatch hlen
  | succ k =>
    have := chain_raise_bad cast res fields hnd post _ pre bad rest 0 0 (by rwa [Nat.zero_add]) hall hb
    rwa [Nat.zero_add] at this

/-- non-vacuity: three rows, the middle one offending, limit 2 under `drop`: rows 0 and 2 come out -/
example :
    let cast : Cast := fun _ v => match v with | .str "bad" => none | v => some v
    (loadChain cast .drop "r" ["q"] id (some 2)
      [[("q", .str "a")], [("q", .str "bad")], [("q", .str "c")]]).toOption =
      some [[("q", .str "a")], [("q", .str "c")]] := by decide

end Df.Load
