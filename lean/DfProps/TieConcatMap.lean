import DfProps.TieRow

/-!
# Tie (C16): the field mapping of `concatenate` **as written in /repo now** = the model's `concatMapping`

    for target_field, source_fields in fields.items():
        if source_fields is not None:
            for source_field in source_fields:
                if source_field in field_mapping: raise RuntimeError(...)
                field_mapping[source_field] = target_field
        if target_field in field_mapping: raise RuntimeError(...)
        field_mapping[target_field] = target_field

The loop is re-translated from processors/concatenate.py on every run (`Live.Py.concat_mapping_loop`).  `Tie_concat_mapping`:
for every `fields` argument (target name ↦ list of source names, or `None`) the mapping the loop leaves in `field_mapping` is
the `Steps` model's `concatMapping` — every source name and then the target name itself mapped to the target, in the order of
the argument — and the loop fails exactly when the model does (a name that appears twice).  `Tie_concatenator` is stated for
this mapping (`field_mapping`); `C16_concat_*` are about `concatRow` under it.
-/

namespace Df.Tie.ConcatMap
open Df Df.Py

def srcBody : S :=
  .seq (.ite (.call .in_ (.cons (.var "source_field") (.cons (.var "field_mapping") .nil))) (.raise_ "RuntimeError") .skip)
    (.mut "field_mapping" "setitem" (.cons (.var "source_field") (.cons (.var "target_field") .nil)))

def tgtBody : S :=
  .seq (.ite (.call .isnot (.cons (.var "source_fields") (.cons (.const .none) .nil))) (.forIn "source_field" (.var "source_fields") srcBody) .skip)
  (.seq (.ite (.call .in_ (.cons (.var "target_field") (.cons (.var "field_mapping") .nil))) (.raise_ "RuntimeError") .skip)
    (.mut "field_mapping" "setitem" (.cons (.var "target_field") (.cons (.var "target_field") .nil))))

theorem concat_mapping_loop_is : Live.Py.concat_mapping_loop =
    { params := ["fields", "field_mapping"], body := .forIn2 "target_field" "source_fields" (.call .items (.cons (.var "fields") .nil)) tgtBody, gen := true } := by
  rfl

def srcsPV : Option (List String) → PV
  | none => .none
  | some l => .list (l.map PV.str)

def fieldsPV (fields : List (String × Option (List String))) : PV := .dict (fields.map (fun f => (PV.str f.1, srcsPV f.2)))

/-- the model's argument: `None` is no source name -/
def fieldsM (fields : List (String × Option (List String))) : List (String × List String) := fields.map (fun f => (f.1, f.2.getD []))

theorem dset_absent (mp : List (String × String)) (k v : String) (h : lookupStr mp k = none) :
    PV.dset (.str k) (.str v) (mp.map (fun ab => (PV.str ab.1, PV.str ab.2))) = (mp ++ [(k, v)]).map (fun ab => (PV.str ab.1, PV.str ab.2)) := by
  induction mp with
  | nil => simp [PV.dset]
  | cons ab rest ih =>
    obtain ⟨a, b⟩ := ab
    simp only [lookupStr] at h
    by_cases hab : a = k
    · simp [hab] at h
    · simp only [hab, if_false] at h
      simp [PV.dset, PV.beq, hab, ih h]

/-- `name in field_mapping`, then `field_mapping[name] = target` -/
theorem set_step (ext : Ext) (x : String) (mp : List (String × String)) (k t : String) (env : Env) (out : List PV)
    (hx : env.lookup x = some (.str k)) (ht : env.lookup "target_field" = some (.str t))
    (hm : env.lookup "field_mapping" = some (mapPV mp)) :
    exec ext (.seq (.ite (.call .in_ (.cons (.var x) (.cons (.var "field_mapping") .nil))) (.raise_ "RuntimeError") .skip)
        (.mut "field_mapping" "setitem" (.cons (.var x) (.cons (.var "target_field") .nil)))) (St.mk env out)
      = if (lookupStr mp k).isSome then .error (.user "RuntimeError")
        else .ok (.next, St.mk (("field_mapping", mapPV (mp ++ [(k, t)])) :: env) out) := by
  have hl := lookup_mapPV mp k
  cases hk : lookupStr mp k with
  | some v =>
    rw [hk] at hl
    simp [exec, evalE, evalArgs, applyFn, builtinOp, opIn, containsPV, Env.get, hx, hm, mapPV, hl, bind, Except.bind, PV.truthy, Except.map]
  | none =>
    rw [hk] at hl
    have hd := dset_absent mp k t hk
    simp [exec, evalE, evalArgs, applyFn, builtinOp, opIn, containsPV, Env.get, hx, ht, hm, mapPV, hl, bind, Except.bind, PV.truthy, Except.map,
      mutate, hd, Env.set]

def addSrc (t : String) (a : List (String × String)) (s : String) : Except Err (List (String × String)) :=
  if (lookupStr a s).isSome then .error (.runtime "Duplicate appearance") else pure (a ++ [(s, t)])

/-- one target of the model: its source names, then the target itself -/
def addTgt (t : String) (srcs : List String) (acc : List (String × String)) : Except Err (List (String × String)) := do
  let acc1 ← srcs.foldlM (addSrc t) acc
  if (lookupStr acc1 t).isSome then .error (.runtime "Duplicate appearance") else pure (acc1 ++ [(t, t)])

abbrev MapInv (acc : List (String × String)) (env : Env) : Prop := env.lookup "field_mapping" = some (mapPV acc)

theorem src_runs (ext : Ext) (t : String) (srcs : List String) (acc : List (String × String)) (env : Env) (out : List PV)
    (hm : env.lookup "field_mapping" = some (mapPV acc)) (ht : env.lookup "target_field" = some (.str t)) :
    Runs AnyErr (fun _ => out) (fun acc1 env' => MapInv acc1 env' ∧ Frame ["field_mapping", "source_field"] env env')
      (srcs.foldlM (addSrc t) acc) (loopFor (exec ext srcBody) (bind1 "source_field") (srcs.map PV.str) (St.mk env out)) := by
  refine loopFor_foldlM PV.str (fun _ acc1 st => st.out = out ∧ MapInv acc1 st.env ∧ Frame ["field_mapping", "source_field"] env st.env)
    (addSrc t) (fun s _ acc st ⟨ho, hm1, hf1⟩ => ?_) srcs acc (St.mk env out) ⟨rfl, hm, Frame.refl _ _⟩
  have hs := set_step ext "source_field" acc s t (("source_field", .str s) :: st.env) st.out (by simp)
    (by simpa [lookup_cons] using (hf1 _ (by simp)).trans ht) (by simpa [lookup_cons] using hm1)
  rw [bind1, Except.bind, srcBody, Env.set, hs, addSrc]
  split
  · trivial
  · exact ⟨.inl rfl, ho, by simp [MapInv], (hf1.set _ (by simp)).set _ (by simp)⟩

theorem src_loop (ext : Ext) (t : String) : ∀ (srcs : List String) (acc : List (String × String)) (env : Env) (out : List PV),
    env.lookup "field_mapping" = some (mapPV acc) → env.lookup "target_field" = some (.str t) →
    match srcs.foldlM (addSrc t) acc with
    | .ok acc1 => ∃ env', loopFor (exec ext srcBody) (bind1 "source_field") (srcs.map PV.str) (St.mk env out) = .ok (.next, St.mk env' out)
        ∧ env'.lookup "field_mapping" = some (mapPV acc1) ∧ Frame ["field_mapping", "source_field"] env env'
    | .error _ => ∃ e, loopFor (exec ext srcBody) (bind1 "source_field") (srcs.map PV.str) (St.mk env out) = .error e := by
  intro srcs acc env out hm ht
  exact Runs.to_match _ (src_runs ext t srcs acc env out hm ht) (fun _ h => h) (fun _ h => h)

theorem concatMapping_cons (t : String) (srcs : List String) (rest : List (String × List String)) (acc : List (String × String)) :
    concatMapping ((t, srcs) :: rest) acc = addTgt t srcs acc >>= concatMapping rest := by
  simp only [concatMapping, addTgt, bind_assoc]
  refine bind_congr fun acc1 => ?_
  split <;> rfl

theorem tgt_step (ext : Ext) (t : String) (o : Option (List String)) (acc : List (String × String)) (env : Env) (out : List PV)
    (hm : env.lookup "field_mapping" = some (mapPV acc)) :
    Runs AnyErr (fun _ => out) MapInv
      (addTgt t (o.getD []) acc)
      (exec ext tgtBody (St.mk (("source_fields", srcsPV o) :: ("target_field", .str t) :: env) out)) := by
  have hm0 : List.lookup "field_mapping" (("source_fields", srcsPV o) :: ("target_field", .str t) :: env) = some (mapPV acc) := by
    simpa [lookup_cons] using hm
  have ht0 : List.lookup "target_field" (("source_fields", srcsPV o) :: ("target_field", PV.str t) :: env) = some (.str t) := by
    simp [lookup_cons]
  unfold addTgt
  refine Runs.seq (O := fun _ => out) (P := fun acc1 env1 => MapInv acc1 env1 ∧ env1.lookup "target_field" = some (.str t)) ?_ ?_
  · cases o with
    | none =>
      rw [exec_ite (v := .bool false) (by simp [evalE, evalArgs, applyFn, builtinOp, opIsnot, srcsPV, get_cons, bind, Except.bind]), exec]
      exact Runs.ok rfl ⟨hm0, ht0⟩
    | some l =>
      rw [exec_ite (v := .bool true) (by simp [evalE, evalArgs, applyFn, builtinOp, opIsnot, srcsPV, isNone, get_cons, bind, Except.bind]),
        if_pos (show (PV.bool true).truthy = true from rfl), exec_forIn_var ext _ _ _ _ (l.map PV.str) (by simp [get_cons, srcsPV, Except.bind])]
      exact (src_runs ext t l acc _ out hm0 ht0).mono fun _ _ h => ⟨h.1, (h.2 _ (by simp)).trans ht0⟩
  · intro acc1 env1 ⟨g2, g3⟩
    rw [set_step ext "target_field" acc1 t t env1 out g3 g3 g2]
    split
    · trivial
    · exact Runs.ok rfl (by simp [MapInv])

def tuplePV (f : String × Option (List String)) : PV := .tuple [.str f.1, srcsPV f.2]

theorem concatMapping_eq (fields : List (String × Option (List String))) (acc : List (String × String)) :
    concatMapping (fieldsM fields) acc = fields.foldlM (fun acc f => addTgt f.1 (f.2.getD []) acc) acc := by
  induction fields generalizing acc with
  | nil => rfl
  | cons f rest ih =>
    rw [fieldsM, List.map_cons, concatMapping_cons, List.foldlM_cons]
    exact bind_congr fun acc1 => ih acc1

theorem tgt_loop (ext : Ext) (fields : List (String × Option (List String))) (acc : List (String × String)) (st : St)
    (hm : MapInv acc st.env) :
    Sim AnyErr (fun mp r => r.1 = .next ∧ MapInv mp r.2.env) (concatMapping (fieldsM fields) acc)
      (loopFor (exec ext tgtBody) (bind2 "target_field" "source_fields") (fields.map tuplePV) st) := by
  rw [concatMapping_eq]
  exact loopFor_foldlM (Q := AnyErr) (body := exec ext tgtBody) (bnd := bind2 "target_field" "source_fields") tuplePV
    (fun _ acc st => MapInv acc st.env) (fun acc f => addTgt f.1 (f.2.getD []) acc)
    (fun f _ acc st hm => Sim.imp (tgt_step ext f.1 f.2 acc st.env st.out hm) (fun _ _ h => h) fun _ _ h => ⟨.inl h.1, h.2.2⟩)
    fields acc st hm

/-- the mapping `concatenate` builds is `concatMapping`, and it is refused exactly when the model refuses it -/
theorem Tie_concat_mapping (ext : Ext) (fields : List (String × Option (List String))) :
    match concatMapping (fieldsM fields) [] with
    | .ok mp => ∃ env, callFnEnv ext Live.Py.concat_mapping_loop [fieldsPV fields, mapPV []] = .ok env ∧ env.lookup "field_mapping" = some (mapPV mp)
    | .error _ => ∃ e, callFnEnv ext Live.Py.concat_mapping_loop [fieldsPV fields, mapPV []] = .error e := by
  have h := tgt_loop ext fields [] (St.mk [("field_mapping", mapPV []), ("fields", fieldsPV fields)] []) (by simp [MapInv])
  have hbody : exec ext Live.Py.concat_mapping_loop.body (St.mk [("field_mapping", mapPV []), ("fields", fieldsPV fields)] [])
      = loopFor (exec ext tgtBody) (bind2 "target_field" "source_fields") (fields.map tuplePV) (St.mk [("field_mapping", mapPV []), ("fields", fieldsPV fields)] []) := by
    rw [concat_mapping_loop_is]
    simp [exec, evalE, evalArgs, applyFn, builtinOp, opItems, fieldsPV, get_cons, bind, Except.bind, Function.comp_def]
    rfl
  rw [← hbody] at h
  unfold callFnEnv
  rw [show bindParams Live.Py.concat_mapping_loop.params [fieldsPV fields, mapPV []] [] = .ok [("field_mapping", mapPV []), ("fields", fieldsPV fields)] from rfl]
  exact Sim.to_match _ h (fun _ ⟨⟨_, st⟩, he, _, hm⟩ => ⟨st.env, by simp [he, bind, Except.bind], hm⟩)
    (fun _ ⟨e', he⟩ => ⟨e', by simp [he, bind, Except.bind]⟩)

/-- non-vacuity: a mapping that is accepted, one that is refused -/
example : (concatMapping (fieldsM [("t", some ["a", "b"]), ("u", none)]) []).toOption = some [("a", "t"), ("b", "t"), ("t", "t"), ("u", "u")] := by decide
example : (concatMapping (fieldsM [("t", some ["a"]), ("u", some ["a"])]) []).toOption = none := by decide

end Df.Tie.ConcatMap
