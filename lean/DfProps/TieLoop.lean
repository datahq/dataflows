import DfProps.TieBase

/-! For the tie theorems of functions with loops: a relation between the outcome of a model and the outcome of a run (`Sim`,
`Runs`), what a piece of program leaves alone (`Frame`), and the rules that turn a `for` loop into a fold or a `mapM`. -/

namespace Df.Tie
open Df Df.Py

theorem exec_forIn_var (ext : Ext) (x it : String) (body : S) (st : St) (xs : List PV)
    (h : (st.env.get it).bind iterLazy = .ok (xs, none)) :
    exec ext (.forIn x (.var it) body) st = loopFor (exec ext body) (bind1 x) xs st := by
  simp only [exec, evalE, bind]
  cases hv : st.env.get it with
  | error e => simp [hv, Except.bind] at h
  | ok v => simp only [hv, Except.bind] at h ⊢; simp [h]

theorem exec_ite_not (ext : Ext) (c : E) (t f : S) : exec ext (.ite (.not c) t f) = exec ext (.ite c f t) := by
  funext st
  simp only [exec, evalE, bind, Except.bind]
  cases evalE ext st.env c with
  | error e => rfl
  | ok v => cases h : v.truthy <;> simp [h]

theorem exec_seq_map {α} (ext : Ext) (a b : S) (st : St) (x : Except Err α) (g : α → St)
    (h : exec ext a st = x.map fun v => (.next, g v)) : exec ext (.seq a b) st = x.bind fun v => exec ext b (g v) := by
  rw [exec, h]; cases x <;> rfl

theorem evalE_items {ext : Ext} {env : Env} {x : String} {v : PV} (h : env.get x = .ok v) :
    evalE ext env (.call .items (.cons (.var x) .nil)) = opItems [v] := by
  simp [evalE, evalArgs, h, applyFn, builtinOp, bind, Except.bind]

/-- the value of a generator function is the list its body has yielded -/
theorem callFn_gen (ext : Ext) (fn : Fn) (hg : fn.gen = true) (args : List PV) :
    callFn ext fn args = (bindParams fn.params args []).bind fun env =>
      ((exec ext fn.body { env := env }).map fun r => r.2.out).map PV.list := by
  unfold callFn
  cases bindParams fn.params args [] with
  | error e => rfl
  | ok env => simp only [bind, Except.bind, hg]; cases exec ext fn.body { env := env } <;> rfl

/-- Two outcomes are related: both are values, related by `R`, or both are failures, with errors related by `Q`.  The shape
of a statement that ties a failing model to a run, or to a computation on Python values (`Refines`; `Agree` and `SameOutcome` are
instances of it under names of their own); `Sim.bind` lets a proof follow the two computations step by step. -/
def Sim {α β} (Q : Err → Err → Prop) (R : α → β → Prop) : Except Err α → Except Err β → Prop
  | .ok x, .ok y => R x y
  | .error e, .error e' => Q e e'
  | _, _ => False

section
variable {α β α' β' : Type _} {Q : Err → Err → Prop} {R : α → β → Prop} {a : Except Err α} {b : Except Err β}

theorem Sim.ok {x : α} {y : β} (h : R x y) : Sim Q R (.ok x) (.ok y) := h

theorem Sim.error {e e' : Err} (h : Q e e') : Sim Q R (.error e : Except Err α) (.error e' : Except Err β) := h

theorem Sim.imp {Q' : Err → Err → Prop} {R' : α → β → Prop} (h : Sim Q R a b)
    (hq : ∀ e e', Q e e' → Q' e e') (hr : ∀ x y, R x y → R' x y) : Sim Q' R' a b := by
  cases a <;> cases b <;> first | exact hq _ _ h | exact hr _ _ h | exact h

theorem Sim.bind {R' : α' → β' → Prop} {f : α → Except Err α'} {g : β → Except Err β'} (h : Sim Q R a b) (hf : ∀ x y, R x y → Sim Q R' (f x) (g y)) :
    Sim Q R' (a.bind f) (b.bind g) := by
  cases a <;> cases b
  · exact h
  · exact h.elim
  · exact h.elim
  · exact hf _ _ h

theorem Sim.of_ok {x : α} (h : Sim Q R (.ok x) b) : ∃ y, b = .ok y ∧ R x y := by
  cases b with
  | error e => exact h.elim
  | ok y => exact ⟨y, rfl, h⟩

theorem Sim.of_error {e : Err} (h : Sim Eq R (.error e : Except Err α) b) : b = .error e := by
  cases b with
  | error e' => exact congrArg _ (Eq.symm h)
  | ok y => exact h.elim

theorem Sim.fails {e : Err} (h : Sim Q R (.error e : Except Err α) b) : ∃ e', b = .error e' := by
  cases b with
  | error e' => exact ⟨e', rfl⟩
  | ok y => exact h.elim

/-- The way out to a statement written `match a with | .ok x => … | .error _ => …`: the motive is read off the goal, so the
lemma applies by `exact` where a lemma stated with a `match` of its own would not unify. -/
@[elab_as_elim]
theorem Sim.to_match {C : Except Err α → Prop} (a : Except Err α) (h : Sim Q R a b) (hok : ∀ x, (∃ y, b = .ok y ∧ R x y) → C (.ok x))
    (herr : ∀ e, (∃ e', b = .error e') → C (.error e)) : C a := by
  cases a with
  | ok x => exact hok x h.of_ok
  | error e => exact herr e h.fails

theorem Sim.map_left {R' : α' → β → Prop} {f : α → α'} (h : Sim Q R a b) (hr : ∀ x y, R x y → R' (f x) y) : Sim Q R' (a >>= fun x => pure (f x)) b := by
  cases a <;> cases b <;> first | exact h | exact hr _ _ h

theorem Sim.trans {γ : Type _} {Q' Q'' : Err → Err → Prop} {R' : β → γ → Prop} {c : Except Err γ} (h : Sim Q R a b) (h' : Sim Q' R' b c)
    (hq : ∀ e e' e'', Q e e' → Q' e' e'' → Q'' e e'') : Sim Q'' (fun x z => ∃ y, R x y ∧ R' y z) a c := by
  cases a <;> cases b <;> cases c <;> first | exact h.elim | exact h'.elim | exact hq _ _ _ h h' | exact ⟨_, h, h'⟩

end

/-- for `Q`, when model and code name their errors differently: a failure answers a failure, whichever -/
abbrev AnyErr : Err → Err → Prop := fun _ _ => True

/-- A computation `m` on Python values against the model's `m'`: the embedded value of the model, or a failure when the model
fails.  A function is run once, against a spec on Python values; `Refines` then carries the result to the model. -/
abbrev Refines {σ τ} (h : τ → σ) (m' : Except Err τ) (m : Except Err σ) : Prop := Sim AnyErr (fun t s => s = h t) m' m

theorem Refines.mapM {σ τ α α' : Type} {h : τ → σ} {g : α' → α} {f : α → Except Err σ} {f' : α' → Except Err τ} (xs : List α')
    (hf : ∀ a ∈ xs, Refines h (f' a) (f (g a))) : Refines (List.map h) (xs.mapM f') ((xs.map g).mapM f) := by
  induction xs with
  | nil => exact rfl
  | cons a rest ih =>
    rw [List.mapM_cons, List.map_cons, List.mapM_cons]
    refine Sim.bind (hf a (by simp)) fun t s hs => ?_
    refine Sim.bind (ih fun b hb => hf b (by simp [hb])) fun ts ss hss => ?_
    rw [hs, hss]; exact rfl

/-- What a piece of program leaves alone: `env'` agrees with `env` outside the names `ws` it assigns.  A binding of a name
outside `ws` survives the piece (`Frame.get`), which spares an invariant the names that are only read. -/
def Frame (ws : List String) (env env' : Env) : Prop := ∀ x, x ∉ ws → env'.lookup x = env.lookup x

theorem Frame.refl (ws : List String) (env : Env) : Frame ws env env := fun _ _ => rfl

theorem Frame.set {ws : List String} {env env' : Env} {x : String} (v : PV) (hx : x ∈ ws) (h : Frame ws env env') :
    Frame ws env ((x, v) :: env') := by
  intro y hy
  rw [lookup_cons, if_neg (fun (e : y = x) => hy (e ▸ hx))]
  exact h y hy

theorem Frame.trans {ws : List String} {e1 e2 e3 : Env} (h12 : Frame ws e1 e2) (h23 : Frame ws e2 e3) : Frame ws e1 e3 :=
  fun x hx => (h23 x hx).trans (h12 x hx)

theorem Frame.mono {ws ws' : List String} {e1 e2 : Env} (h : Frame ws e1 e2) (hs : ∀ x ∈ ws, x ∈ ws') : Frame ws' e1 e2 :=
  fun x hx => h x (fun hm => hx (hs x hm))

theorem Frame.get {ws : List String} {env env' : Env} (h : Frame ws env env') {x : String} (hx : x ∉ ws) : env'.get x = env.get x := by
  unfold Env.get; rw [h x hx]

/-- the end of a run whose model gives `s`: no `break`/`return` pending, the yielded values `O s`, an environment with `P s` -/
def Ends {σ} (O : σ → List PV) (P : σ → Env → Prop) (s : σ) (r : Ctl × St) : Prop :=
  r.1 = .next ∧ r.2.out = O s ∧ P s r.2.env

/-- `Sim` between a model `m` and the run `r` of a piece of program: the statement form of the lemmas about statements,
blocks and loops, which `Runs.seq` and the loop rules compose (`Q = Eq`: the run fails with the model's own error). -/
def Runs {σ} (Q : Err → Err → Prop) (O : σ → List PV) (P : σ → Env → Prop) (m : Except Err σ) (r : Except Err (Ctl × St)) : Prop :=
  Sim Q (Ends O P) m r

section
variable {σ τ : Type _} {Q : Err → Err → Prop} {O : σ → List PV} {P : σ → Env → Prop}

theorem Runs.ok {s : σ} {r : Except Err (Ctl × St)} {env' : Env} (h : r = .ok (.next, St.mk env' (O s))) (hP : P s env') :
    Runs Q O P (.ok s) r := by
  rw [h]; exact ⟨rfl, rfl, hP⟩

theorem Runs.err {e e' : Err} {r : Except Err (Ctl × St)} (h : r = .error e') (hq : Q e e') : Runs Q O P (.error e) r := by
  rw [h]; exact hq

theorem Runs.of_ok {s : σ} {r : Except Err (Ctl × St)} (h : Runs Q O P (.ok s) r) :
    ∃ env', r = .ok (.next, St.mk env' (O s)) ∧ P s env' := by
  obtain ⟨⟨c, st⟩, hr, hc, ho, hp⟩ := Sim.of_ok h
  exact ⟨st.env, by rw [hr]; simp only [] at hc ho; rw [hc, ← ho], hp⟩

/-- for a straight-line piece: one evaluation gives its run as the model's computation followed by a normal end -/
theorem Runs.of_eq {m : Except Err σ} {r : Except Err (Ctl × St)} (envOf : σ → Env)
    (h : r = m >>= fun s => .ok (.next, St.mk (envOf s) (O s))) (hP : ∀ s, m = .ok s → P s (envOf s)) : Runs Eq O P m r := by
  cases m with
  | ok s => exact Runs.ok h (hP s rfl)
  | error e => exact Runs.err h rfl

theorem Runs.imp {Q' : Err → Err → Prop} {m : Except Err σ} {r : Except Err (Ctl × St)} {O' : σ → List PV} {P' : σ → Env → Prop}
    (h : Runs Q O P m r) (hq : ∀ e e', Q e e' → Q' e e') (hO : ∀ s, O s = O' s) (hP : ∀ s env, P s env → P' s env) :
    Runs Q' O' P' m r :=
  Sim.imp h hq fun s _ ⟨hc, ho, hp⟩ => ⟨hc, ho.trans (hO s), hP s _ hp⟩

theorem Runs.mono {m : Except Err σ} {r : Except Err (Ctl × St)} {P' : σ → Env → Prop} (h : Runs Q O P m r)
    (hP : ∀ s env, P s env → P' s env) : Runs Q O P' m r :=
  h.imp (fun _ _ h => h) (fun _ => rfl) hP

theorem Runs.refine {h : τ → σ} {m' : Except Err τ} {m : Except Err σ} {r : Except Err (Ctl × St)} (hm : Refines h m' m)
    (hr : Runs Q O P m r) : Runs AnyErr (fun t => O (h t)) (fun t => P (h t)) m' r :=
  (hm.trans hr (Q'' := AnyErr) fun _ _ _ _ _ => trivial).imp (fun _ _ h => h) fun _ _ ⟨_, hs, he⟩ => by subst hs; exact he

/-- `Sim.to_match` with the end of the run spelled out as the statements in `match` form have it -/
@[elab_as_elim]
theorem Runs.to_match {C : Except Err σ → Prop} (m : Except Err σ) {r : Except Err (Ctl × St)} (h : Runs Q O P m r)
    (hok : ∀ s, (∃ env', r = .ok (.next, St.mk env' (O s)) ∧ P s env') → C (.ok s))
    (herr : ∀ e, (∃ e', r = .error e') → C (.error e)) : C m := by
  cases m with
  | ok s => exact hok s (Runs.of_ok h)
  | error e => exact herr e (Sim.fails h)

/-- the ways out to the value of a generator function, after `callFn_gen`: with the error, and up to the error -/
theorem Runs.out_eq {m : Except Err σ} {r : Except Err (Ctl × St)} (h : Runs Eq O P m r) : r.map (fun x => x.2.out) = m.map O := by
  cases m with
  | ok s => obtain ⟨env', he, -⟩ := Runs.of_ok h; rw [he]; rfl
  | error e => rw [Sim.of_error h]; rfl

theorem Runs.out_toOption {m : Except Err σ} {r : Except Err (Ctl × St)} (h : Runs Q O P m r) :
    ((r.map fun x => x.2.out).map PV.list).toOption = m.toOption.map fun s => PV.list (O s) := by
  cases m with
  | ok s => obtain ⟨env', he, -⟩ := Runs.of_ok h; rw [he]; rfl
  | error e => obtain ⟨e', he⟩ := Sim.fails h; rw [he]; rfl

/-- the program's next statement is the model's next step: a block is tied by following program and model side by side -/
theorem Runs.seq {ext : Ext} {a b : S} {st : St} {m : Except Err σ} {k : σ → Except Err τ} {O' : τ → List PV} {P' : τ → Env → Prop}
    (h1 : Runs Q O P m (exec ext a st))
    (h2 : ∀ s env', P s env' → Runs Q O' P' (k s) (exec ext b (St.mk env' (O s)))) :
    Runs Q O' P' (m >>= k) (exec ext (.seq a b) st) := by
  rw [exec]
  refine Sim.bind h1 fun s r ⟨hc, ho, hp⟩ => ?_
  obtain ⟨c, st'⟩ := r
  simp only [] at hc ho hp
  subst hc
  rw [show st' = St.mk st'.env (O s) by rw [← ho]]
  exact h2 s _ hp
end

/-- one iteration; the loop rules are proved from it, a tie module should not need it -/
theorem loopFor_cons (body : St → Except Err (Ctl × St)) (bnd : PV → Env → Except Err Env) (v : PV) (vs : List PV) (st : St) :
    loopFor body bnd (v :: vs) st = ((bnd v st.env).bind fun e => body { st with env := e }).bind fun r =>
      match r.1 with
      | .next => loopFor body bnd vs r.2
      | .cont => loopFor body bnd vs r.2
      | .brk => .ok (.next, r.2)
      | .ret x => .ok (.ret x, r.2) := by
  simp only [loopFor, bind]
  cases bnd v st.env with
  | error e => rfl
  | ok e => simp only [Except.bind]; cases body { st with env := e } <;> rfl

/-- A loop whose body simulates one step `f` of a model simulates the fold of `f`: for loops that carry a state (an
accumulator, a row being built).  The invariant `I` ties the fold's state to the loop's and may mention the items still to
come; an iteration may end with `continue`. -/
theorem loopFor_foldlM {σ α : Type} {body : St → Except Err (Ctl × St)} {bnd : PV → Env → Except Err Env} {Q : Err → Err → Prop}
    (emb : α → PV) (I : List α → σ → St → Prop) (f : σ → α → Except Err σ)
    (hstep : ∀ a as s st, I (a :: as) s st → Sim Q (fun s' r => (r.1 = .next ∨ r.1 = .cont) ∧ I as s' r.2) (f s a)
      ((bnd (emb a) st.env).bind fun e => body { st with env := e })) :
    ∀ xs s st, I xs s st → Sim Q (fun s' r => r.1 = .next ∧ I [] s' r.2) (xs.foldlM f s) (loopFor body bnd (xs.map emb) st) := by
  intro xs
  induction xs with
  | nil => intro s st h; exact Sim.ok ⟨rfl, h⟩
  | cons a as ih =>
    intro s st h
    rw [List.foldlM_cons, List.map_cons, loopFor_cons]
    refine (hstep a as s st h).bind fun s' r ⟨hc, hr⟩ => ?_
    rcases hc with hc | hc <;> rw [hc] <;> exact ih s' r.2 hr

/-- the same for a body that cannot fail -/
theorem loopFor_foldl {σ α : Type} {body : St → Except Err (Ctl × St)} {bnd : PV → Env → Except Err Env}
    (emb : α → PV) (I : List α → σ → St → Prop) (g : σ → α → σ)
    (hstep : ∀ a as s st, I (a :: as) s st → ∃ c st', (bnd (emb a) st.env).bind (fun e => body { st with env := e }) = .ok (c, st') ∧
      (c = .next ∨ c = .cont) ∧ I as (g s a) st') (xs : List α) (s : σ) (st : St) (h : I xs s st) :
    ∃ st', loopFor body bnd (xs.map emb) st = .ok (.next, st') ∧ I [] (xs.foldl g s) st' := by
  have := loopFor_foldlM (Q := Eq) emb I (fun s a => .ok (g s a))
    (fun a as s st hr => by obtain ⟨c, st', h1, h2, h3⟩ := hstep a as s st hr; rw [h1]; exact ⟨h2, h3⟩) xs s st h
  rw [show xs.foldlM (fun s a => Except.ok (g s a)) s = .ok (xs.foldl g s) from List.foldlM_pure] at this
  obtain ⟨⟨c, st'⟩, h1, h2, h3⟩ := this.of_ok
  exact ⟨st', by rw [h1]; simp only [] at h2; rw [h2], h3⟩

/-- A generator loop is a `mapM`: each item `a` yields the values `o b` of its model result `b = f a`, or fails; the loop
carries no state beyond what `P` says of the names it reads. -/
theorem loopFor_mapM {α} {β : Type _} {Q : Err → Err → Prop} {body : St → Except Err (Ctl × St)} {bnd : PV → Env → Except Err Env} (emb : α → PV)
    (f : α → Except Err β) (o : β → List PV) (P : Env → Prop) (xs : List α)
    (hstep : ∀ a ∈ xs, ∀ env out, P env →
      Runs Q (fun b => out ++ o b) (fun _ => P) (f a) ((bnd (emb a) env).bind fun e => body (St.mk e out))) :
    ∀ env out, P env →
      Runs Q (fun bs => out ++ bs.flatMap o) (fun _ => P) (xs.mapM f) (loopFor body bnd (xs.map emb) (St.mk env out)) := by
  induction xs with
  | nil => intro env out h; exact Runs.ok (by simp [loopFor]) h
  | cons a rest ih =>
    intro env out h
    rw [List.mapM_cons, List.map_cons, loopFor_cons]
    refine Sim.bind (hstep a (by simp) env out h) fun b r ⟨hc, ho, hp⟩ => ?_
    obtain ⟨c, st'⟩ := r
    simp only [] at hc ho hp
    subst hc
    have := ih (fun c hc => hstep c (by simp [hc])) st'.env (out ++ o b) hp
    rw [show st' = St.mk st'.env (out ++ o b) by rw [← ho]]
    exact this.map_left fun bs r' ⟨hc', ho', hp'⟩ => ⟨hc', by rw [ho']; simp [List.append_assoc], hp'⟩

/-- the same with one value per item -/
theorem loopFor_map {α} {β : Type _} {Q : Err → Err → Prop} {body : St → Except Err (Ctl × St)} {bnd : PV → Env → Except Err Env}
    (emb : α → PV) (f : α → Except Err β) (o : β → PV) (P : Env → Prop) (xs : List α)
    (hstep : ∀ a ∈ xs, ∀ env out, P env →
      Runs Q (fun b => out ++ [o b]) (fun _ => P) (f a) ((bnd (emb a) env).bind fun e => body (St.mk e out)))
    (env : Env) (out : List PV) (h : P env) :
    Runs Q (fun bs => out ++ bs.map o) (fun _ => P) (xs.mapM f) (loopFor body bnd (xs.map emb) (St.mk env out)) :=
  (loopFor_mapM emb f (fun b => [o b]) P xs hstep env out h).imp (fun _ _ h => h) (fun bs => by rw [List.map_eq_flatMap]) fun _ _ h => h

end Df.Tie
