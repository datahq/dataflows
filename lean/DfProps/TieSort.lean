import DfProps.TieLoop
import DfModel.SortKey

/-!
# Tie (C12): the rendering of a row's sort key **as written in /repo now** = `Sort.renderNum` / the text itself

`KeyCalc.__calculator.func(row)` is re-translated from processors/sort_rows.py on every run (`Live.Py.sort_key_func`).  The
bit array is an external object: `BitArray(float=v, length=64)` gives the sign and the other 63 bits of the IEEE double
of `v` (the conversion `dbl` is a parameter), `invert(0)` flips the sign bit, `invert(range(1, 64))` flips the other 63 bits,
`.hex` reads 16 hex digits.  What is proved is what the *code* does with them:

* `Tie_sort_key`: for a key given as a list of field names (no format string) over integer and text cells, the key is the
  concatenation, in key order, of `hexStr (encNum (dbl v))` for an integer cell `v` — the sign bit flipped, negatives fully
  flipped, zero rendered as +0: the model's `Sort.encNum`, the function `C12_num_key_order` is about — and of the text itself
  for a text cell (every key field present in the row).
* `hexStr_codes`: `hexStr n` is the string of the model's `Sort.hexW 16 n` (so the rendered number is `Sort.renderNum`).

Assumed of the conversion (IEEE-754, stated as hypotheses): `dbl 0 = +0`; for `v ≠ 0` the sign bit is set exactly when
`v < 0`, the magnitude bits are non-zero and below 2^63.
-/

namespace Df.Tie
open Df Df.Py Df.Sort

theorem get_ite (c : Prop) [Decidable c] (a b : Env) (x : String) :
    Env.get (if c then a else b) x = if c then Env.get a x else Env.get b x :=
  apply_ite (Env.get · x) c a b

def hexStr (n : Nat) : String := String.ofList ((hexW 16 n).map Char.ofNat)

theorem hexStr_codes (n : Nat) : (hexStr n).toList = (hexW 16 n).map Char.ofNat := by
  simp [hexStr]

/-- the bit array: sign bit, the other 63 bits as a number, and the `hex` property -/
def bitsObj (sign : Bool) (mag : Nat) : PV :=
  .dict [(.str "__sign__", .bool sign), (.str "__mag__", .int mag), (.str "hex", .str (hexStr ((if sign then 2 ^ 63 else 0) + mag)))]

def skExt (dbl : Int → F) : Ext := fun f args =>
  match f, args with
  | "BitArray", [.tuple [.str "float", .int v], .tuple [.str "length", .int 64]] => .ok (bitsObj (dbl v).neg (dbl v).mag)
  | ".invert!", [.dict [(_, .bool s), (_, .int m), _], .int 0] => .ok (bitsObj (!s) m.toNat)
  | ".invert!", [.dict [(_, .bool s), (_, .int m), _], .opaque "range" "1:64"] => .ok (bitsObj s (2 ^ 63 - 1 - m.toNat))
  | "range", [.int 1, .int 64] => .ok (.opaque "range" "1:64")
  | "isinstance:float", [_] => .ok (.bool false)
  | "isinstance:Decimal", [_] => .ok (.bool false)
  | "str", [.str s] => .ok (.str s)
  | _, _ => .error (.missingExt f)

attribute [local pyl] skExt.eq_1 skExt.eq_2 skExt.eq_3 skExt.eq_4 skExt.eq_5 skExt.eq_6 skExt.eq_7

inductive KCell where
  | int (v : Int)
  | text (s : String)

def KCell.pv : KCell → PV
  | .int v => .int v
  | .text s => .str s

def KCell.render (dbl : Int → F) : KCell → String
  | .int v => hexStr (encNum (dbl v))
  | .text s => s

/-- what IEEE-754 guarantees of the conversion of an integer to a double, as far as the key needs it -/
structure DblOk (dbl : Int → F) : Prop where
  zero : dbl 0 = ⟨false, 0⟩
  sign : ∀ v, v ≠ 0 → (dbl v).neg = decide (v < 0)
  nz : ∀ v, v ≠ 0 → (dbl v).mag ≠ 0
  lt : ∀ v, (dbl v).mag < 2 ^ 63

/-- the body of the loop over the key fields (as in the source) -/
def skBody : S := (.seq (.assign "value" (.call .getitem (.cons (.var "row") (.cons (.var "key") .nil)))) (.seq (.assign "raw" (.or (.not (.var "formatters")) (.call .eq (.cons (.call .getitem (.cons (.var "formatters") (.cons (.var "i") .nil))) (.cons (.call .add (.cons (.call .add (.cons (.const (.str "{")) (.cons (.var "key") .nil))) (.cons (.const (.str "}")) .nil))) .nil))))) (.seq (.ite (.and (.var "raw") (.or (.call .isInt (.cons (.var "value") .nil)) (.or (.call (.ext "isinstance:float") (.cons (.var "value") .nil)) (.call (.ext "isinstance:Decimal") (.cons (.var "value") .nil))))) (.seq (.ite (.call .eq (.cons (.var "value") (.cons (.const (.int 0)) .nil))) (.assign "value" (.const (.int 0))) .skip) (.seq (.assign "bits" (.call (.ext "BitArray") (.cons (.call .mkTuple (.cons (.const (.str "float")) (.cons (.var "value") .nil))) (.cons (.call .mkTuple (.cons (.const (.str "length")) (.cons (.const (.int 64)) .nil))) .nil)))) (.seq (.assign "bits" (.call (.ext ".invert!") (.cons (.var "bits") (.cons (.const (.int 0)) .nil)))) (.seq (.ite (.call .lt (.cons (.var "value") (.cons (.const (.int 0)) .nil))) (.assign "bits" (.call (.ext ".invert!") (.cons (.var "bits") (.cons (.call (.ext "range") (.cons (.const (.int 1)) (.cons (.const (.int 64)) .nil))) .nil)))) .skip) (.assign "value" (.call .attr (.cons (.var "bits") (.cons (.const (.str "hex")) .nil)))))))) .skip) (.ite (.var "formatters") (.assign "ret" (.call .add (.cons (.var "ret") (.cons (.call (.ext ".format") (.cons (.call .getitem (.cons (.var "formatters") (.cons (.var "i") .nil))) (.cons (.call .mkTuple (.cons (.var "key") (.cons (.var "value") .nil))) .nil))) .nil)))) (.assign "ret" (.call .add (.cons (.var "ret") (.cons (.call (.ext "str") (.cons (.var "value") .nil)) .nil))))))))

theorem sort_key_func_is : Live.Py.sort_key_func =
  { params := ["row", "key_spec", "formatters"],
    body := .seq (.assign "ret" (.const (.str ""))) (.seq (.forIn2 "i" "key" (.call .enumerate (.cons (.var "key_spec") .nil)) skBody) (.ret (.var "ret"))),
    gen := false } := by rfl

def SkEnv (row : List (PV × PV)) (acc : String) (env : Env) : Prop :=
  env.lookup "row" = some (.dict row) ∧ env.lookup "formatters" = some .none ∧ env.lookup "ret" = some (.str acc)

theorem encNum_zero (dbl : Int → F) (hd : DblOk dbl) : encNum (dbl 0) = 2 ^ 63 := by
  simp [hd.zero, encNum]

theorem encNum_dbl (dbl : Int → F) (hd : DblOk dbl) (v : Int) :
    (dbl v).neg = decide (v < 0) ∧ encNum (dbl v) = if v < 0 then 2 ^ 63 - 1 - (dbl v).mag else 2 ^ 63 + (dbl v).mag := by
  by_cases h0 : v = 0
  · simp [h0, hd.zero, encNum]
  · have hs := hd.sign v h0
    by_cases hlt : v < 0 <;> simp [encNum, hs, hlt, hd.nz v h0]

/-- `if value == 0: value = 0` in front of `rest`, on an integer -/
theorem exec_zero_guard {ext : Ext} {rest : S} {env : Env} {out : List PV} {v : Int} (hv : env.get "value" = .ok (.int v)) :
    exec ext (.seq (.ite (.call .eq (.cons (.var "value") (.cons (.const (.int 0)) .nil))) (.assign "value" (.const (.int 0))) .skip) rest)
        ⟨env, out⟩ = exec ext rest ⟨if v = 0 then ("value", .int v) :: env else env, out⟩ := by
  rw [exec_seq_ite (v := .bool (v == 0)) (by simp [pyl, hv])]
  by_cases h0 : v = 0 <;> simp [pyl, h0]

theorem sk_body_step (dbl : Int → F) (hd : DblOk dbl) (row : List (PV × PV)) (acc : String) (env : Env) (out : List PV)
    (i : Int) (k : String) (c : KCell) (hk : PV.lookup (.str k) row = some c.pv) (h : SkEnv row acc env) :
    ∃ env', exec (skExt dbl) skBody { env := ("key", .str k) :: ("i", .int i) :: env, out := out } = .ok (.next, { env := env', out := out })
      ∧ SkEnv row (acc ++ c.render dbl) env' := by
  obtain ⟨hrow, hfmt, hret⟩ := h
  have grow := get_of_lookup hrow
  have gfmt := get_of_lookup hfmt
  have gret := get_of_lookup hret
  -- value = row[key]; raw = True (there are no format strings)
  rw [skBody, exec_seq_assign (v := c.pv) (by simp [pyl, grow, hk]), exec_seq_assign (v := .bool true) (by simp [pyl, gfmt])]
  cases c with
  | text s =>
    rw [exec_seq_ite (v := .bool false) (by simp [pyl, KCell.pv])]
    simp only [truthy_bool, Bool.false_eq_true, if_false, exec_seq_skip]
    rw [exec_ite (v := .none) (by simp [pyl, gfmt])]
    refine ⟨_, by simp [pyl, gret, KCell.pv]; rfl, ?_⟩
    simp [SkEnv, lookup_cons, hrow, hfmt, KCell.render]
  | int v =>
    obtain ⟨hneg, henc⟩ := encNum_dbl dbl hd v
    rw [exec_seq_ite (v := .bool true) (by simp [pyl, KCell.pv])]
    simp only [truthy_bool, if_true, exec_seq_assoc, KCell.pv]
    rw [exec_zero_guard (v := v) (by simp [pyl])]
    -- bits = BitArray(float=value, length=64); bits.invert(0)
    simp only [exec_seq_assoc]
    rw [exec_seq_assign (v := bitsObj (dbl v).neg (dbl v).mag) (by simp [pyl, get_ite])]
    simp only [exec_seq_assoc]
    rw [exec_seq_assign (v := bitsObj (!(dbl v).neg) (dbl v).mag) (by simp [pyl, bitsObj])]
    simp only [exec_seq_assoc]
    rw [exec_seq_ite (v := .bool (decide (v < 0))) (by simp [pyl, get_ite, PV.lt])]
    by_cases hlt : v < 0
    · simp only [hlt, decide_true, truthy_bool, if_true]
      rw [exec_seq_assign (v := bitsObj false (2 ^ 63 - 1 - (dbl v).mag)) (by simp [pyl, bitsObj, hneg, hlt]),
        exec_seq_assign (v := .str (hexStr (encNum (dbl v)))) (by simp [pyl, bitsObj, henc, hlt]),
        exec_ite (v := .none) (by simp [pyl, get_ite, gfmt])]
      refine ⟨_, by simp [pyl, get_ite, gret]; rfl, ?_⟩
      simp [SkEnv, lookup_cons, apply_ite (List.lookup _), hrow, hfmt, KCell.render]
    · simp only [hlt, decide_false, truthy_bool, Bool.false_eq_true, if_false, exec_seq_skip]
      rw [exec_seq_assign (v := .str (hexStr (encNum (dbl v)))) (by simp [pyl, bitsObj, hneg, henc, hlt]),
        exec_ite (v := .none) (by simp [pyl, get_ite, gfmt])]
      refine ⟨_, by simp [pyl, get_ite, gret]; rfl, ?_⟩
      simp [SkEnv, lookup_cons, apply_ite (List.lookup _), hrow, hfmt, KCell.render]

theorem sk_loop (dbl : Int → F) (hd : DblOk dbl) (row : List (PV × PV)) (out : List PV) :
    ∀ (ks : List (String × KCell)) (n : Nat) (acc : String) (env : Env),
    (∀ kc ∈ ks, PV.lookup (.str kc.1) row = some kc.2.pv) → SkEnv row acc env →
    ∃ env', loopFor (exec (skExt dbl) skBody) (bind2 "i" "key") (enumFrom n (ks.map (fun kc => PV.str kc.1))) ⟨env, out⟩
        = .ok (.next, ⟨env', out⟩) ∧ SkEnv row (acc ++ String.join (ks.map (fun kc => kc.2.render dbl))) env' := by
  intro ks
  induction ks with
  | nil => intro n acc env _ h; exact ⟨env, by simp [enumFrom, loopFor], by simpa using h⟩
  | cons kc rest ih =>
    intro n acc env hks h
    obtain ⟨env1, he, hinv⟩ := sk_body_step dbl hd row acc env out n kc.1 kc.2 (hks kc (by simp)) h
    obtain ⟨env', h1, h2⟩ := ih (n + 1) _ env1 (fun kc hkc => hks kc (by simp [hkc])) hinv
    refine ⟨env', ?_, by simpa [String.append_assoc] using h2⟩
    simp only [List.map_cons, enumFrom, loopFor, bind2, Env.set, bind, Except.bind, he]
    exact h1

/-- the key of a row, for a key given as a list of field names over integer and text cells: each cell rendered in key order -/
theorem Tie_sort_key (dbl : Int → F) (hd : DblOk dbl) (row : List (PV × PV)) (ks : List (String × KCell))
    (hks : ∀ kc ∈ ks, PV.lookup (.str kc.1) row = some kc.2.pv) :
    callFn (skExt dbl) Live.Py.sort_key_func [.dict row, .list (ks.map (fun kc => PV.str kc.1)), .none]
      = .ok (.str (String.join (ks.map (fun kc => kc.2.render dbl)))) := by
  obtain ⟨env', h1, -, -, h3⟩ := sk_loop dbl hd row [] ks 0 ""
    [("ret", .str ""), ("formatters", .none), ("key_spec", .list (ks.map (fun kc => PV.str kc.1))), ("row", .dict row)]
    hks (by simp [SkEnv, lookup_cons])
  rw [sort_key_func_is]
  simp [pyl, iterLazy_list, h1, get_of_lookup h3]

/-- the premise of `Tie_sort_key` for the key field `b` of a two-cell row -/
example : PV.lookup (.str "b") [(.str "a", KCell.pv (.int 3)), (.str "b", KCell.pv (.text "x"))] = some (KCell.pv (.text "x")) := by
  simp [PV.lookup, PV.beq, KCell.pv]

end Df.Tie
