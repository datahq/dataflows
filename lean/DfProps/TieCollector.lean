import DfModel.Parallelize
import DfProps.TieQueue

/-!
# Tie (C18): one turn of the collector loop of `parallelize.fork` **as written in /repo now** = the model's `coll` step

    while True:
        row = q_internal.get()
        if row is None:
            break
        yield row

The body of the `while` is re-translated from processors/parallelize.py on every run (`Live.Py.par_collector_body`).
`Tie_collector_turn`: a row taken from the internal queue is delivered (yielded) exactly once and the loop goes on; the end
marker delivers nothing and leaves the loop.  `collector_turn_is_coll`: that is the `coll` step of the `Df.Par` state machine
(`qInt`, `delivered`, `cDone`), the step whose `delivered` list `C18_exactly_once` is about.
-/

namespace Df.Tie.Collector
open Df Df.Py

def turn (ext : Ext) (qi : PV) (out : List PV) : Except Err (Ctl × List PV) := do
  let env ← bindParams Live.Py.par_collector_body.params [qi] []
  let (c, st) ← exec ext Live.Py.par_collector_body.body { env := env, out := out }
  pure (c, st.out)

theorem Tie_collector_turn (ext : Ext) (qi hold : PV) (out : List PV) (hget : ext ".get" [qi] = .ok hold) :
    turn ext qi out = .ok (if isNone hold then (Ctl.brk, out) else (Ctl.next, out ++ [hold])) := by
  unfold turn Live.Py.par_collector_body
  simp only [bindParams, Env.set, bind, Except.bind, exec_take ((get_cons ..).trans (if_pos rfl)) hget]
  cases hn : isNone hold <;> simp [pyl]

def rowPV (r : Df.Par.Row) : PV := .int (r : Int)
def itemPV : Option Df.Par.Row → PV
  | none => .none
  | some r => rowPV r

/-- **one turn of the code = the model's `coll`**: with `h` at the head of the internal queue, the model's step delivers what
the code yields and is done exactly when the code leaves its loop -/
theorem collector_turn_is_coll (p : Df.Par.Row → Bool) (f : Df.Par.Row → Df.Par.Row) (ext : Ext) (qi : PV) (s : Df.Par.St)
    (h : Option Df.Par.Row) (rest : List (Option Df.Par.Row)) (hq : s.qInt = h :: rest) (hnd : s.cDone = false)
    (hget : ext ".get" [qi] = .ok (itemPV h)) :
    ∃ s' c, Df.Par.step p f s .coll = some s' ∧ turn ext qi (s.delivered.map rowPV) = .ok (c, s'.delivered.map rowPV)
      ∧ s'.qInt = rest ∧ (s'.cDone = true ↔ c = .brk) := by
  have ht := Tie_collector_turn ext qi (itemPV h) (s.delivered.map rowPV) hget
  cases h with
  | some r =>
    refine ⟨{ s with qInt := rest, delivered := s.delivered ++ [r] }, .next, by simp [Df.Par.step, hnd, hq], ?_, rfl, by simp [hnd]⟩
    simpa [itemPV, rowPV, isNone] using ht
  | none =>
    refine ⟨{ s with qInt := rest, cDone := true }, .brk, by simp [Df.Par.step, hnd, hq], ?_, rfl, by simp⟩
    simpa [itemPV, isNone] using ht

end Df.Tie.Collector
