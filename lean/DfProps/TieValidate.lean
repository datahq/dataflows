import DfProps.TieRow
import DfModel.Validate

/-!
# Tie (C14): the predefined error handlers **as written in /repo now** = the policy cases of `castField`

`ignore`, `drop`, `clear`, `raise_exception` of base/schema_validator.py are re-translated on every run.  The model's
`castField` treats a failed cast according to `Policy`; `Tie_handlers_castField` says that, for the three policies that
return, the model's (row, okay) is exactly (the row as the handler left it, okay ∧ what the handler returned), and that
`raise_exception` raises.  The loop around the handlers (`try … except CastError`, `if not on_error(...)`) is tied in
`TieVLoop`.
-/

namespace Df.Tie
open Df Df.Py

def embRow (r : Row) : PV := .dict (r.map (fun kv => (PV.str kv.1, embVal kv.2)))

/-- the arguments the validator passes: resource name, row, index, the error (opaque) -/
def hargs (res : String) (row : Row) (i : Nat) : List PV := [.str res, embRow row, .int i, .opaque "CastError" ""]

theorem Tie_handler_ignore (ext : Ext) (res : String) (row : Row) (i : Nat) :
    callFn ext Live.Py.handler_ignore (hargs res row i) = .ok (.bool true) := rfl

theorem Tie_handler_drop (ext : Ext) (res : String) (row : Row) (i : Nat) :
    callFn ext Live.Py.handler_drop (hargs res row i) = .ok (.bool false) := rfl

theorem Tie_handler_raise (ext : Ext) (res : String) (row : Row) (i : Nat) :
    callFn ext Live.Py.handler_raise (hargs res row i) = .error (.user "ValidationError") := rfl

/-- `clear` with the offending field: returns True and leaves the row with that field null -/
theorem Tie_handler_clear (ext : Ext) (res : String) (row : Row) (i : Nat) (f : String) :
    callFn ext Live.Py.handler_clear (hargs res row i ++ [.dict [(.str "name", .str f)]]) = .ok (.bool true)
    ∧ (callFnEnv ext Live.Py.handler_clear (hargs res row i ++ [.dict [(.str "name", .str f)]])).map (fun env => env.lookup "row")
        = .ok (some (embRow (Row.set row f .null))) :=
  ⟨rfl, (rfl : _ = Except.ok (some (PV.dict (PV.dset (.str f) (embVal .null) (row.map (fun kv => (PV.str kv.1, embVal kv.2))))))).trans
    (by rw [dset_str embVal]; rfl)⟩

/-- `clear` without a field (a row-level error): returns False -/
theorem Tie_handler_clear_nofield (ext : Ext) (res : String) (row : Row) (i : Nat) :
    callFn ext Live.Py.handler_clear (hargs res row i ++ [.none]) = .ok (.bool false) := rfl

/-- the model's treatment of a failed cast is what the handlers do -/
theorem Tie_handlers_castField (cast : Cast) (res : String) (i : Nat) (row : Row) (okay : Bool) (f : String)
    (hfail : cast f (Row.getD row f) = none) :
    castField cast .ignore res i (row, okay) f = .ok (row, okay && true)
    ∧ castField cast .drop res i (row, okay) f = .ok (row, okay && false)
    ∧ castField cast .clear res i (row, okay) f = .ok (Row.set row f .null, okay && true)
    ∧ castField cast .raise res i (row, okay) f = .error (.validation res i) := by
  simp [castField, hfail]

end Df.Tie
