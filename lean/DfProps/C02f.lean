import DfProps.Util
import DfModel.JoinSchema

/-!
# C02 — the target schema built by `join`

Existing target fields are kept untouched and in place; new fields are appended after them; field names stay
distinct; every appended field comes from an entry of the specification and has the type the (live) aggregator
table prescribes.  (The order of the appended fields is that of `orderSpecs`; no theorem here speaks of it, the
examples at the end show it.)
-/

namespace Df.Join
open Df

theorem joinFieldStep_spec {srcFields tf tf' : List Field} {sp : JSpec} (h : joinFieldStep srcFields tf sp = .ok tf') :
    tf' = tf ∨ ∃ t rest, wantedField srcFields sp = .ok (t, rest) ∧ sp.name ∉ tf.map Field.name ∧
      tf' = tf ++ [{ name := sp.name, type := t, rest := rest }] := by
  unfold joinFieldStep at h
  split at h
  · cases h
  · rename_i t rest hw
    split at h
    · split at h <;> cases h
      exact Or.inl rfl
    · rename_i hf
      cases h
      refine Or.inr ⟨t, rest, hw, fun hm => ?_, rfl⟩
      obtain ⟨f, hfm, hname⟩ := List.mem_map.mp hm
      simpa [hname] using List.find?_eq_none.mp hf f hfm

theorem C02_join_fields_raw (srcFields : List Field) :
    ∀ (specs : List JSpec) (tf tf' : List Field), (tf.map Field.name).Nodup →
      joinTargetFieldsRaw srcFields specs tf = .ok tf' →
      (tf'.map Field.name).Nodup ∧ ∃ added, tf' = tf ++ added ∧
        ∀ f ∈ added, ∃ sp ∈ specs, f.name = sp.name ∧
          ∃ rest, wantedField srcFields sp = .ok (f.type, rest) := by
  intro specs tf tf' hnd h
  have key := foldlM_ok_rel (f := joinFieldStep srcFields)
    (fun tf tf' => ((tf.map Field.name).Nodup → (tf'.map Field.name).Nodup) ∧ ∃ added, tf' = tf ++ added ∧
      ∀ f ∈ added, ∃ sp ∈ specs, f.name = sp.name ∧ ∃ rest, wantedField srcFields sp = .ok (f.type, rest))
    (fun tf => ⟨id, [], (List.append_nil tf).symm, nofun⟩)
    (fun ⟨n1, a1, e1, p1⟩ ⟨n2, a2, e2, p2⟩ => ⟨n2 ∘ n1, a1 ++ a2, by rw [e2, e1, List.append_assoc],
      fun f hf => (List.mem_append.mp hf).elim (p1 f) (p2 f)⟩)
    specs (fun sp hsp tf mid hs => ?_) h
  · exact ⟨key.1 hnd, key.2⟩
  · rcases joinFieldStep_spec hs with rfl | ⟨t, rest, hw, hfresh, rfl⟩
    · exact ⟨id, [], (List.append_nil _).symm, nofun⟩
    · refine ⟨fun hnd => by simpa using nodup_concat hnd hfresh, [_], rfl, fun f hf => ?_⟩
      cases List.mem_singleton.mp hf
      exact ⟨sp, hsp, rfl, rest, hw⟩

theorem mem_sortSpecs : ∀ (l : List JSpec) (y : JSpec), y ∈ sortSpecs l → y ∈ l :=
  mem_of_mem_foldr_insert (fun _ => rfl) fun x a as => by simp only [insertSpec]; split <;> simp

theorem mem_orderSpecs (srcFields : List Field) (specs : List JSpec) (sp : JSpec)
    (h : sp ∈ orderSpecs srcFields specs) : sp ∈ specs := by
  simp only [orderSpecs, List.mem_append, List.mem_filterMap] at h
  rcases h with ⟨f, _, hf⟩ | h
  · exact List.mem_of_find?_eq_some hf
  · exact (List.mem_filter.mp (mem_sortSpecs _ sp h)).1

/-- **join keeps the target's field names distinct and its existing fields in place**; every appended field
comes from an entry of the specification and has the type the live table prescribes -/
theorem C02_join_fields (srcFields : List Field) (specs : List JSpec) (tf tf' : List Field)
    (hnd : (tf.map Field.name).Nodup) (h : joinTargetFields srcFields specs tf = .ok tf') :
    (tf'.map Field.name).Nodup ∧ ∃ added, tf' = tf ++ added ∧
      ∀ f ∈ added, ∃ sp ∈ specs, f.name = sp.name ∧
        ∃ rest, wantedField srcFields sp = .ok (f.type, rest) := by
  obtain ⟨h1, added, h2, h3⟩ := C02_join_fields_raw srcFields _ tf tf' hnd h
  exact ⟨h1, added, h2, fun f hf => by
    obtain ⟨sp, hsp, a, b⟩ := h3 f hf
    exact ⟨sp, mem_orderSpecs srcFields specs sp hsp, a, b⟩⟩

/-- two target fields fed by one source column are two distinct fields of the target -/
example :
    (joinTargetFields [⟨"k", "string", ""⟩, ⟨"day", "date", "{\"format\":\"default\"}"⟩]
      [⟨"first_seen", "day", "first"⟩, ⟨"last_seen", "day", "last"⟩, ⟨"n", "day", "count"⟩]
      [⟨"k", "string", ""⟩]).toOption.map (fun fs => fs.map (fun f => (f.name, f.type))) =
    some [("k", "string"), ("first_seen", "date"), ("last_seen", "date"), ("n", "integer")] := by decide +kernel

/-- entries not named like a source field are appended sorted by name, whatever order they were given in -/
example :
    (joinTargetFields [⟨"k", "string", ""⟩, ⟨"n", "integer", ""⟩]
      [⟨"lo", "n", "min"⟩, ⟨"hi", "n", "max"⟩, ⟨"n", "n", "sum"⟩]
      [⟨"k", "string", ""⟩]).toOption.map (fun fs => fs.map Field.name) = some ["k", "n", "hi", "lo"] := by decide +kernel

end Df.Join
