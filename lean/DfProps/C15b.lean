import DfProps.C15
import DfModel.Compute

/-!
# C15 (continued) — find_replace and add_computed_field

* find_replace touches only the listed fields, never the row's key set, never a missing value;
  a string cell ends up as the substitutions applied one after the other (`frText`).
* add_computed_field appends one field, stores `op(non-null source values of that row)` under it,
  leaves every other value alone; which type `getType` declares for the new field.
-/

namespace Df

/-! ## find_replace -/

/-- what find_replace may do to a row when it works on the names in `S`: the key set stays, values
outside `S` stay -/
def Row.Frame (S : String → Prop) (row row' : Row) : Prop :=
  (∀ k, k ∈ Row.keys row' ↔ k ∈ Row.keys row) ∧ ∀ k, ¬S k → Row.get? row' k = Row.get? row k

theorem Row.Frame.refl (S : String → Prop) (row : Row) : Row.Frame S row row := ⟨fun _ => Iff.rfl, fun _ _ => rfl⟩

theorem Row.Frame.trans {S : String → Prop} {a b c : Row} (h1 : Row.Frame S a b) (h2 : Row.Frame S b c) :
    Row.Frame S a c :=
  ⟨fun k => (h2.1 k).trans (h1.1 k), fun k hk => (h2.2 k hk).trans (h1.2 k hk)⟩

theorem frStep_frame {O : ReOracle} {pyStr : Val → String} {name : String} {row row' : Row} {p : String × String}
    {S : String → Prop} (hS : S name) (h : frStep O pyStr name row p = .ok row') : Row.Frame S row row' := by
  unfold frStep at h
  split at h
  · cases h
  · cases h; exact .refl S _
  · -- the cell `name` is present and gets overwritten
    cases h
    exact ⟨fun k => (Row.keys_set ..).trans (or_iff_left_of_imp (· ▸ Row.mem_keys_of_get? ‹_›)),
      fun k hk => Row.get?_set_ne _ _ _ _ fun e => hk (e ▸ hS)⟩

theorem frField_frame {O : ReOracle} {pyStr : Val → String} {f : FRField} {row row' : Row} {S : String → Prop}
    (hS : S f.name) (h : frField O pyStr row f = .ok row') : Row.Frame S row row' :=
  foldlM_ok_rel _ (.refl S) .trans f.patterns (fun _ _ _ _ => frStep_frame hS) h

theorem frRow_frame {O : ReOracle} {pyStr : Val → String} {fields : List FRField} {row row' : Row}
    (h : frRow O pyStr fields row = .ok row') : Row.Frame (fun k => ∃ f ∈ fields, f.name = k) row row' :=
  foldlM_ok_rel _ (.refl _) .trans fields (fun f hf _ _ => frField_frame ⟨f, hf, rfl⟩) h

theorem frStep_null (O : ReOracle) (pyStr : Val → String) (name : String) (row : Row) (p : String × String)
    (h : Row.get? row name = some .null) : frStep O pyStr name row p = .ok row := by
  simp [frStep, h]

theorem frStep_str (O : ReOracle) (pyStr : Val → String) (hstr : ∀ s, pyStr (.str s) = s) (name : String) (row : Row)
    (p : String × String) (s : String) (h : Row.get? row name = some (.str s)) :
    frStep O pyStr name row p = .ok (Row.set row name (.str (O.sub p.1 p.2 s))) := by
  simp [frStep, h, hstr]

/-- all patterns of one field, on a string cell: the substitutions composed in order -/
theorem frField_str (O : ReOracle) (pyStr : Val → String) (hstr : ∀ s, pyStr (.str s) = s) (name : String) :
    ∀ (pats : List (String × String)) (row : Row) (s : String), Row.get? row name = some (.str s) →
      ∃ row', frField O pyStr row { name := name, patterns := pats } = .ok row' ∧
        Row.get? row' name = some (.str (frText O pats s)) ∧
        (∀ k, k ≠ name → Row.get? row' k = Row.get? row k) ∧
        (∀ k, k ∈ Row.keys row' ↔ k ∈ Row.keys row) := by
  intro pats
  induction pats with
  | nil => intro row s h; exact ⟨row, rfl, h, fun _ _ => rfl, fun _ => Iff.rfl⟩
  | cons p ps ih =>
    intro row s h
    obtain ⟨row', hr', hv, -⟩ := ih _ _ (Row.get?_set_eq row name (.str (O.sub p.1 p.2 s)))
    have hf : frField O pyStr row ⟨name, p :: ps⟩ = .ok row' := by
      simp only [frField, List.foldlM_cons, frStep_str O pyStr hstr name row p s h, bind, Except.bind]
      exact hr'
    have hfr : Row.Frame (· = name) row row' := frField_frame rfl hf
    exact ⟨row', hf, hv, hfr.2, hfr.1⟩

/-- all patterns of one field, on a missing value: nothing happens -/
theorem frField_null (O : ReOracle) (pyStr : Val → String) (name : String) :
    ∀ (pats : List (String × String)) (row : Row), Row.get? row name = some .null →
      frField O pyStr row { name := name, patterns := pats } = .ok row := by
  intro pats
  induction pats with
  | nil => intro row _; rfl
  | cons p ps ih =>
    intro row h
    simp only [frField, List.foldlM_cons, frStep_null O pyStr name row p h, bind, Except.bind]
    exact ih row h

/-- **find_replace never changes the key set of a row and never touches a field it does not list** -/
theorem C15_find_replace_frame (O : ReOracle) (pyStr : Val → String) :
    ∀ (fields : List FRField) (row row' : Row), frRow O pyStr fields row = .ok row' →
      (∀ k, k ∈ Row.keys row' ↔ k ∈ Row.keys row) ∧
      (∀ k, (∀ f ∈ fields, f.name ≠ k) → Row.get? row' k = Row.get? row k) :=
  fun _ _ _ h => ⟨(frRow_frame h).1, fun k hk => (frRow_frame h).2 k fun ⟨f, hf, e⟩ => hk f hf e⟩

/-- **find_replace keeps rows and schema in lockstep** (the schema is not touched) -/
theorem C15_find_replace_lockstep (O : ReOracle) (pyStr : Val → String) (fields : List FRField) (r r' : Res)
    (h : Lockstep r) (hr : findReplaceRes O pyStr fields r = .ok r') : Lockstep r' ∧ r'.fields = r.fields := by
  simp only [findReplaceRes, Except.bind_eq_ok, Except.pure_eq_ok] at hr
  obtain ⟨rows', hm, rfl⟩ := hr
  refine ⟨fun row' hrow' k => ?_, rfl⟩
  obtain ⟨row, hrow, hfr⟩ := mapM_ok_mem hm hrow'
  exact ((frRow_frame hfr).1 k).trans (h row hrow k)

/-! ## add_computed_field -/

theorem computedRow_ok {pyStr : Val → String} {target : String} {op : CompOp} {sources : List String} {with_ : String}
    {row row' : Row} (h : computedRow pyStr target op sources with_ row = .ok row') :
    ∃ v, compute pyStr op with_ (sourceValues sources row) = .ok v ∧ row' = Row.set row target v := by
  unfold computedRow at h
  split at h
  · cases h
  · cases h; exact ⟨_, ‹_›, rfl⟩

theorem computedRes_mapM {pyStr : Val → String} {target : String} {op : CompOp} {sources : List String} {w : String}
    {r r' : Res} (hr : computedRes pyStr target op sources w r = .ok r') :
    ∃ rows', r.rows.mapM (computedRow pyStr target op sources w) = .ok rows' ∧
      r' = { r with fields := r.fields ++ [{ name := target, type := getType r.fields sources op }], rows := rows' } := by
  unfold computedRes at hr
  split at hr
  · cases hr
  · cases hr; exact ⟨_, ‹_›, rfl⟩

/-- the new field is appended with the type `getType` decides, every row gets the computed value
under the target name, every other value is untouched, lockstep is kept -/
theorem C15_computed_appended (pyStr : Val → String) (target : String) (op : CompOp) (sources : List String)
    (with_ : String) (r r' : Res) (h : Lockstep r)
    (hr : computedRes pyStr target op sources with_ r = .ok r') :
    Lockstep r' ∧
    r'.fields = r.fields ++ [{ name := target, type := getType r.fields sources op }] ∧
    r'.rows.length = r.rows.length ∧
    (∀ (i : Nat) row row', r.rows[i]? = some row → r'.rows[i]? = some row' →
      (∃ v, compute pyStr op with_ (sourceValues sources row) = .ok v ∧ Row.get? row' target = some v) ∧
      ∀ k, k ≠ target → Row.get? row' k = Row.get? row k) := by
  obtain ⟨rows', hm, rfl⟩ := computedRes_mapM hr
  refine ⟨h.append _ fun row' hrow' => ?_, rfl, mapM_ok_length hm, fun i row row' hi hi' => ?_⟩
  · obtain ⟨row, hrow, hc⟩ := mapM_ok_mem hm hrow'
    obtain ⟨v, -, rfl⟩ := computedRow_ok hc
    exact ⟨row, hrow, v, rfl⟩
  · obtain ⟨_, ho, hc⟩ := mapM_ok_getElem? hm hi
    cases hi'.symm.trans ho
    obtain ⟨v, hv, rfl⟩ := computedRow_ok hc
    exact ⟨⟨v, hv, Row.get?_set_eq _ _ _⟩, fun k hk => Row.get?_set_ne _ _ _ _ hk⟩

theorem types_contains (fields : List Field) (sources : List String) (t : String) :
    ((fields.filter (fun f => sources.contains f.name)).map Field.type).contains t = true ↔
      ∃ f ∈ fields, f.name ∈ sources ∧ f.type = t := by
  simp only [List.contains_iff_mem, List.mem_map, List.mem_filter]
  constructor
  · rintro ⟨f, ⟨hf, hs⟩, ht⟩; exact ⟨f, hf, by simpa using hs, ht⟩
  · rintro ⟨f, hf, hs, ht⟩; exact ⟨f, ⟨hf, by simpa using hs⟩, ht⟩

theorem types_not_contains {fields : List Field} {sources : List String} {t : String}
    (h : ∀ f ∈ fields, f.name ∈ sources → f.type ≠ t) :
    ((fields.filter (fun f => sources.contains f.name)).map Field.type).contains t = false :=
  Bool.eq_false_iff.mpr fun hc => let ⟨f, hf, hs, ht⟩ := (types_contains fields sources t).mp hc; h f hf hs ht

/-- a `number` source makes the target a `number` (unless some source is `any`, or the operation
yields text): an integer/number mix is never declared `integer` -/
theorem C15_getType_number (fields : List Field) (sources : List String) (op : CompOp)
    (hany : ∀ f ∈ fields, f.name ∈ sources → f.type ≠ "any")
    (hop : op ≠ .join)
    (hnum : ∃ f ∈ fields, f.name ∈ sources ∧ f.type = "number") :
    getType fields sources op = "number" := by
  simp only [getType, types_not_contains hany, (types_contains fields sources "number").mpr hnum, hop,
    Bool.false_eq_true, if_false, if_true]

theorem C15_getType_any (fields : List Field) (sources : List String) (op : CompOp)
    (hany : ∃ f ∈ fields, f.name ∈ sources ∧ f.type = "any") :
    getType fields sources op = "any" := by
  simp only [getType, (types_contains fields sources "any").mpr hany, if_true]

theorem C15_getType_join (fields : List Field) (sources : List String)
    (hany : ∀ f ∈ fields, f.name ∈ sources → f.type ≠ "any") :
    getType fields sources .join = "string" := by
  simp only [getType, types_not_contains hany, Bool.false_eq_true, if_false, if_true]

theorem sumV_ints (l : List Int) : ∀ acc : Int, (l.map Val.int).foldlM addV (.int acc) = .ok (.int (acc + l.sum)) := by
  induction l with
  | nil => intro acc; simp [pure, Except.pure]
  | cons a as ih =>
    intro acc
    simp only [List.map_cons, List.foldlM_cons, addV, bind, Except.bind, ih, List.sum_cons, Int.add_assoc]

theorem C15_sum_ints (l : List Int) : sumV (l.map Val.int) = .ok (.int l.sum) := by
  unfold sumV; rw [sumV_ints l 0]; simp

/-- non-vacuity: a row with a null source, an int and a decimal -/
example : (compute (fun _ => "") .sum "" (sourceValues ["a", "b", "c"] [("a", .int 3), ("b", .null), ("c", .dec 15 (-1))])).toOption
    = some (.dec 45 (-1)) := by decide
example : getType [{ name := "a", type := "integer" }, { name := "c", type := "number" }] ["a", "c"] .sum = "number" := by decide

end Df
