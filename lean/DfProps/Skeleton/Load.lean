import DfProps.Skeleton.Defs

namespace Df.Live

/-- the wrapper chain: cast, then strip, then limit -/
theorem C13_wrapper_order :
    before loadResourcesSkeleton "caster" "stripper" = true ∧
    before loadResourcesSkeleton "stripper" "limiter" = true ∧
    before loadResourcesSkeleton "missing_values_extractor" "caster" = true := by decide +kernel

end Df.Live
