import DfProps.Skeleton.Defs

namespace Df.Live

/-- a data file is finalised before it is measured and hashed, closed before it is copied out -/
theorem C19_rows_processor_order :
    before fileDumperRowsSkeleton "write_row" "finalize_file" = true ∧
    before fileDumperRowsSkeleton "finalize_file" "tell" = true ∧
    before fileDumperRowsSkeleton "finalize_file" "hash_handler" = true ∧
    before fileDumperRowsSkeleton "hash_handler" "close" = true ∧
    before fileDumperRowsSkeleton "close" "write_file_to_output" = true ∧
    noneAfter fileDumperRowsSkeleton "write_row" "finalize_file" = true := by decide +kernel

/-- a row is written to the data file before it is handed on: what a later step does to the row object (rows travel by
reference) can never reach the file -/
theorem C03_row_written_before_handed_on : before fileDumperRowsSkeleton "write_row" "yield" = true := by decide +kernel

end Df.Live
