import DfProps.Skeleton.Defs

namespace Df.Live

/-- `checkpoint` decides by the existence of the final name only, and never renames anything itself -/
theorem C08_checkpoint_existence_test_only :
    before checkpointChainSkeleton "exists" "unstream" = true ∧
    checkpointChainSkeleton.contains "rename" = false ∧
    checkpointChainSkeleton.contains "_finalize_pending" = false := by decide +kernel

end Df.Live
