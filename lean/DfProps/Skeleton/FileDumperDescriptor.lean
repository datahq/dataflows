import DfProps.Skeleton.Defs

namespace Df.Live

/-- the descriptor is handled after the loop over all resource streams; it is written to a temporary file,
closed, and only then copied out -/
theorem C19_descriptor_after_resources :
    before dumperResourcesSkeleton "process_resource" "handle_datapackage" = true ∧
    before dumperResourcesSkeleton "}" "handle_datapackage" = true ∧
    noneAfter dumperResourcesSkeleton "yield" "handle_datapackage" = true ∧
    before fileDumperDescriptorSkeleton "dump" "close" = true ∧
    before fileDumperDescriptorSkeleton "close" "write_file_to_output" = true := by decide +kernel

end Df.Live
