import DfProps.Skeleton.Defs

namespace Df.Live

/-- `to_path` resolves the target against the output directory before it looks whether the file exists -/
theorem C09_path_resolved_before_existence_test :
    before pathDumperWriteSkeleton "join" "exists" = true ∧
    before pathDumperWriteSkeleton "exists" "copy" = true := by decide +kernel

end Df.Live
