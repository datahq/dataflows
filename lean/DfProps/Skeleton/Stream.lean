import DfProps.Skeleton.Defs

namespace Df.Live

/-- the stream file is written, then closed, then renamed to its final name; nothing is written after the rename or
handed on after the close, and there is no `finally` block (so a failing run never publishes the file) -/
theorem C08_stream_publishes_last :
    before streamFuncSkeleton "close" "rename" = true ∧
    before streamFuncSkeleton "write" "close" = true ∧
    noneAfter streamFuncSkeleton "write" "rename" = true ∧
    noneAfter streamFuncSkeleton "yield" "close" = true ∧
    streamFuncSkeleton.contains "finally{" = false := by decide +kernel

/-- `stream` / `checkpoint` write a row before handing it on, like the file dumpers
(`C03_row_written_before_handed_on`) -/
theorem C05_stream_row_written_before_handed_on : before streamResWriterSkeleton "write" "yield" = true := by decide +kernel

end Df.Live
