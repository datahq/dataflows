import DfProps.TieRow

/-!
# Tie (C16): `duplicate`'s descriptor generator **as written in /repo now** = `duplicateDesc`

`traverse_resources` (a generator nested in the package phase of `duplicate`) is re-translated on every run
(`Live.Py.duplicate_traverse`).  `Tie_duplicate_traverse`: every descriptor passes through in order; a descriptor named like the
source is followed — immediately, or after all the others when `duplicate_to_end` — by a copy that differs in name and path
only (`dup_out_is_spec`: the output is `dupSpec`, the two shapes of the `Steps` model's `duplicateDesc` — `C16_duplicate_after /
_to_end` — written over (name, path, rest-of-descriptor) triples).
-/

namespace Df.Tie
open Df Df.Py

/-- a resource descriptor: name, path and everything else -/
abbrev RD := String × String × PV
def rdPV (d : RD) : PV := .dict [(.str "name", .str d.1), (.str "path", .str d.2.1), (.str "other", d.2.2)]
def rdCopy (tn tp : String) (d : RD) : RD := (tn, tp, d.2.2)

def dupSpec (src tn tp : String) (toEnd : Bool) (ds : List RD) : List RD :=
  if toEnd then ds ++ (ds.filter (fun d => d.1 = src)).map (rdCopy tn tp)
  else ds.flatMap (fun d => if d.1 = src then [d, rdCopy tn tp d] else [d])

def dupBody : S :=
  .seq (.yield (.var "res")) (.ite (.call .eq (.cons (.call .getitem (.cons (.var "res") (.cons (.const (.str "name")) .nil))) (.cons (.var "source_") .nil)))
    (.seq (.assign "res" (.call .deepcopy (.cons (.var "res") .nil))) (.seq (.mut "res" "setitem" (.cons (.const (.str "name")) (.cons (.var "target_name_") .nil)))
      (.seq (.mut "res" "setitem" (.cons (.const (.str "path")) (.cons (.var "target_path_") .nil)))
        (.ite (.var "duplicate_to_end") (.mut "new_res_list" "append" (.cons (.var "res") .nil)) (.yield (.var "res")))))) .skip)

def yieldVar (x : String) : S := .yield (.var x)

theorem duplicate_traverse_is : Live.Py.duplicate_traverse =
  { params := ["resources", "source_", "target_name_", "target_path_", "duplicate_to_end"],
    body := .seq (.assign "new_res_list" (.call .mkList .nil)) (.seq (.forIn "res" (.var "resources") dupBody)
      (.forIn "res" (.var "new_res_list") (yieldVar "res"))), gen := true } := by rfl

def DupEnv (src tn tp : String) (toEnd : Bool) (copies : List RD) (env : Env) : Prop :=
  env.lookup "source_" = some (.str src) ∧ env.lookup "target_name_" = some (.str tn) ∧ env.lookup "target_path_" = some (.str tp) ∧
  env.lookup "duplicate_to_end" = some (.bool toEnd) ∧ env.lookup "new_res_list" = some (.list (copies.map rdPV))

def stepCopies (src tn tp : String) (toEnd : Bool) (d : RD) : List RD := if toEnd && d.1 == src then [rdCopy tn tp d] else []
def stepOut (src tn tp : String) (toEnd : Bool) (d : RD) : List RD := if !toEnd && d.1 == src then [d, rdCopy tn tp d] else [d]

theorem dup_step (ext : Ext) (src tn tp : String) (toEnd : Bool) (d : RD) (copies : List RD) (st : St) (h : DupEnv src tn tp toEnd copies st.env) :
    ∃ s1, exec ext dupBody { st with env := ("res", rdPV d) :: st.env } = .ok (.next, s1) ∧
      DupEnv src tn tp toEnd (copies ++ stepCopies src tn tp toEnd d) s1.env ∧ s1.out = st.out ++ (stepOut src tn tp toEnd d).map rdPV := by
  obtain ⟨h1, h2, h3, h4, h5⟩ := h
  obtain ⟨n, p, o⟩ := d
  -- the run is computed in each of the three cases; what is left are the bindings and the output it ends with
  by_cases hn : n = src
  · subst hn
    cases toEnd <;>
      simp [pyl, Env.get, dupBody, rdPV, rdCopy, DupEnv, h1, h2, h3, h4, h5, stepCopies, stepOut, List.append_assoc]
  · simp [pyl, Env.get, dupBody, rdPV, hn, DupEnv, h1, h2, h3, h4, h5, stepCopies, stepOut]

theorem dup_loop (ext : Ext) (src tn tp : String) (toEnd : Bool) : ∀ (ds copies : List RD) (st : St), DupEnv src tn tp toEnd copies st.env →
    ∃ st', loopFor (exec ext dupBody) (bind1 "res") (ds.map rdPV) st = .ok (.next, st') ∧
      DupEnv src tn tp toEnd (copies ++ ds.flatMap (stepCopies src tn tp toEnd)) st'.env ∧
      st'.out = st.out ++ (ds.flatMap (stepOut src tn tp toEnd)).map rdPV := by
  intro ds
  induction ds with
  | nil => intro copies st h; exact ⟨st, by simp [loopFor], by simpa using h, by simp⟩
  | cons d rest ih =>
    intro copies st h
    obtain ⟨s1, e1, e2, e3⟩ := dup_step ext src tn tp toEnd d copies st h
    obtain ⟨st', g1, g2, g3⟩ := ih _ s1 e2
    refine ⟨st', ?_, by simpa [List.flatMap_cons, List.append_assoc] using g2, by rw [g3, e3]; simp [List.flatMap_cons, List.append_assoc]⟩
    simp only [List.map_cons, loopFor, bind1, Env.set, bind, Except.bind, e1]; exact g1

/-- the generator: every descriptor in order, copies of the source right after it or at the end -/
theorem Tie_duplicate_traverse (ext : Ext) (src tn tp : String) (toEnd : Bool) (ds : List RD) :
    callFn ext Live.Py.duplicate_traverse [.list (ds.map rdPV), .str src, .str tn, .str tp, .bool toEnd]
      = .ok (.list ((ds.flatMap (stepOut src tn tp toEnd) ++ ds.flatMap (stepCopies src tn tp toEnd)).map rdPV)) := by
  obtain ⟨st', h1, h2, h3⟩ := dup_loop ext src tn tp toEnd ds []
    { env := [("new_res_list", .list []), ("duplicate_to_end", .bool toEnd), ("target_path_", .str tp), ("target_name_", .str tn),
              ("source_", .str src), ("resources", .list (ds.map rdPV))] }
    (by simp [DupEnv, lookup_cons])
  obtain ⟨_, _, _, _, h5⟩ := h2
  simp only [List.nil_append] at h5 h3
  -- `for res in new_res_list: yield res`
  obtain ⟨st2, hy1, hy2⟩ := map_loop ext "res" (yieldVar "res") rdPV rdPV (fun _ => True) (ds.flatMap (stepCopies src tn tp toEnd))
    (fun d _ env out _ => ⟨("res", rdPV d) :: env, by simp [yieldVar, exec, evalE, get_cons, bind, Except.bind], trivial⟩) st' trivial
  rw [duplicate_traverse_is]
  unfold callFn
  simp only [pyl, Env.get, iterLazy_list, String.reduceEq, if_false, if_true]
  rw [h1]
  simp only [h5, iterLazy_list]
  rw [hy1]
  simp [hy2, h3]

theorem copies_true (src tn tp : String) (ds : List RD) :
    ds.flatMap (stepCopies src tn tp true) = (ds.filter (fun d => d.1 = src)).map (rdCopy tn tp) := by
  induction ds with
  | nil => rfl
  | cons d rest ih =>
    by_cases hd : d.1 = src <;> simp [List.flatMap_cons, stepCopies, hd, ih]

/-- in the two shapes of the model's `duplicateDesc`: copies at the end, or each right after its source -/
theorem dup_out_is_spec (src tn tp : String) (toEnd : Bool) (ds : List RD) :
    ds.flatMap (stepOut src tn tp toEnd) ++ ds.flatMap (stepCopies src tn tp toEnd) = dupSpec src tn tp toEnd ds := by
  cases toEnd with
  | true =>
    have h1 : ds.flatMap (stepOut src tn tp true) = ds := List.flatMap_singleton' ds
    have h2 := copies_true src tn tp ds
    simp [dupSpec, h1, h2]
  | false =>
    have h2 : ds.flatMap (stepCopies src tn tp false) = [] := List.flatMap_eq_nil_iff.mpr fun _ _ => rfl
    have h1 : ds.flatMap (stepOut src tn tp false) = ds.flatMap (fun d => if d.1 = src then [d, rdCopy tn tp d] else [d]) := by
      congr 1
      funext d
      by_cases hd : d.1 = src <;> simp [stepOut, hd]
    simp [dupSpec, h1, h2]

end Df.Tie
