import DfProps.TieLoop

/-!
# Tie (C13): `load.limiter` **as written in /repo now** yields exactly the first n rows and asks for no row beyond them

    def limiter(self, iterator):
        if self.limit_rows <= 0: return
        count = 0
        for row in iterator:
            yield row
            count += 1
            if count >= self.limit_rows: break

`Tie_limiter`: over a finite iterable the generator's value is `rows.take n` (nothing for n ≤ 0).  `Tie_limiter_lazy`: over an
iterable whose producer *fails when asked for an item beyond the listed ones* (this is how demand is visible in the list
semantics), the limiter still succeeds with the first n rows whenever there are at least n — it never pulls row n+1 — and
fails only if the limit exceeds what the producer has.  (`C13_chain_raise_ok` says the same of the model of the wrapper chain.)
-/

namespace Df.Tie
open Df Df.Py

def limBody : S :=
  .seq (.yield (.var "row")) (.seq (.assign "count" (.call .add (.cons (.var "count") (.cons (.const (.int 1)) .nil))))
    (.ite (.call .ge (.cons (.var "count") (.cons (.var "self.limit_rows") .nil))) .break_ .skip))

theorem limiter_body_is : Live.Py.load_limiter.body =
    .seq (.ite (.call .le (.cons (.var "self.limit_rows") (.cons (.const (.int 0)) .nil))) (.ret (.const .none)) .skip)
      (.seq (.assign "count" (.const (.int 0))) (.forIn "row" (.var "iterator") limBody)) := by rfl

/-- `m` more rows may pass: the count stands at `n - m` -/
def LimEnv (n : Int) (m : Nat) (env : Env) : Prop :=
  env.lookup "count" = some (.int (n - m)) ∧ env.lookup "self.limit_rows" = some (.int n)

theorem lim_body_step (ext : Ext) (n : Int) (m : Nat) (env : Env) (out : List PV) (r : PV) (h : LimEnv n (m + 1) env) :
    ∃ env', exec ext limBody { env := ("row", r) :: env, out := out } = .ok (if m = 0 then .brk else .next, { env := env', out := out ++ [r] })
      ∧ LimEnv n m env' := by
  obtain ⟨hc, hn⟩ := h
  refine ⟨("count", .int (n - m)) :: ("row", r) :: env, ?_, by simp [LimEnv, lookup_cons, hn]⟩
  unfold limBody
  simp only [exec, evalE, evalArgs, applyFn, builtinOp, opAdd, opGe, PV.lt, Env.get, Env.set, lookup_cons, String.reduceEq, ↓reduceIte,
    bind, Except.bind, Except.map, truthy_bool, hc, hn, show n - ((m + 1 : Nat) : Int) + 1 = n - m by omega]
  by_cases hm : m = 0
  · simp [hm]
  · simp [hm, show n - (m : Int) < n by omega]

theorem lim_loop (ext : Ext) (tl : Err) (n : Int) (rows : List PV) (m : Nat) (st : St) (h : LimEnv n (m + 1) st.env) :
    (loopFor (exec ext limBody) (bind1 "row") rows st).map (fun r => r.2.out) = .ok (st.out ++ rows.take (m + 1)) ∧
    (loopForT tl (exec ext limBody) (bind1 "row") rows st).map (fun r => r.2.out)
      = if rows.length < m + 1 then .error tl else .ok (st.out ++ rows.take (m + 1)) := by
  induction rows generalizing m st with
  | nil => simp [loopFor, loopForT, Except.map]
  | cons r rs ih =>
    obtain ⟨env', hb, hinv⟩ := lim_body_step ext n m st.env st.out r h
    simp only [loopFor, loopForT, bind1, Env.set, bind, Except.bind, hb]
    cases m with
    | zero => simp [Except.map]
    | succ m =>
      obtain ⟨h1, h2⟩ := ih m ⟨env', st.out ++ [r]⟩ hinv
      simp only [Nat.succ_ne_zero, if_false, h1, h2]
      by_cases hl : rs.length < m + 1 <;> simp [hl]

/-- a producer of `rows` that raises `tag` when asked for one more -/
def lazyObj (rows : List PV) (tag : String) : PV :=
  .dict [(.str "__iter__", .list rows), (.str "__raise_after__", .str tag)]

theorem limiter_eval (ext : Ext) (self it : PV) (rows : List PV) (tl : Option Err) (n : Int) (hit : iterLazy it = .ok (rows, tl)) :
    callFn ext Live.Py.load_limiter [self, it, .int n] =
      if n ≤ 0 then .ok (.list [])
      else (((match tl with
          | none => loopFor (exec ext limBody) (bind1 "row") rows
          | some tl => loopForT tl (exec ext limBody) (bind1 "row") rows)
        { env := [("count", .int 0), ("self.limit_rows", .int n), ("iterator", it), ("self", self)] }).map
          fun (r : Ctl × St) => r.2.out).map PV.list := by
  rw [callFn_gen _ _ rfl, limiter_body_is, show Live.Py.load_limiter.params = ["self", "iterator", "self.limit_rows"] from rfl]
  by_cases hn : n ≤ 0
  · simp [pyl, PV.lt, hn, show ¬ (0 : Int) < n by omega]
  · cases tl <;> simp [pyl, PV.lt, hit, hn, show (0 : Int) < n by omega]

/-- over a finite iterable: exactly the first n rows (none for n ≤ 0) -/
theorem Tie_limiter (ext : Ext) (self : PV) (rows : List PV) (n : Int) :
    callFn ext Live.Py.load_limiter [self, .list rows, .int n] = .ok (.list (rows.take n.toNat)) := by
  rw [limiter_eval ext self _ rows none n rfl]
  by_cases hn : n ≤ 0
  · simp [hn, show n.toNat = 0 by omega]
  · obtain ⟨m, hm⟩ : ∃ m : Nat, n = m + 1 := ⟨(n - 1).toNat, by omega⟩
    subst hm
    have hl := (lim_loop ext (.user "") (m + 1) rows m
      ⟨[("count", .int 0), ("self.limit_rows", .int (m + 1)), ("iterator", .list rows), ("self", self)], []⟩ (by simp [LimEnv, lookup_cons])).1
    simp only [if_neg hn, hl]
    simp [Except.map, show ((m : Int) + 1).toNat = m + 1 by omega]

/-- over a producer that fails beyond its rows: the limiter never asks for row n+1 -/
theorem Tie_limiter_lazy (ext : Ext) (self : PV) (rows : List PV) (tag : String) (n : Int) :
    callFn ext Live.Py.load_limiter [self, lazyObj rows tag, .int n]
      = if 0 < n ∧ rows.length < n.toNat then .error (.user tag) else .ok (.list (rows.take n.toNat)) := by
  rw [limiter_eval ext self _ rows (some (.user tag)) n (by simp [lazyObj, iterLazy, PV.lookup_cons_str])]
  by_cases hn : n ≤ 0
  · simp [hn, show n.toNat = 0 by omega, show ¬ (0 : Int) < n by omega]
  · obtain ⟨m, hm⟩ : ∃ m : Nat, n = m + 1 := ⟨(n - 1).toNat, by omega⟩
    subst hm
    have hl := (lim_loop ext (.user tag) (m + 1) rows m
      ⟨[("count", .int 0), ("self.limit_rows", .int (m + 1)), ("iterator", lazyObj rows tag), ("self", self)], []⟩ (by simp [LimEnv, lookup_cons])).2
    simp only [if_neg hn, hl, show ((m : Int) + 1).toNat = m + 1 by omega]
    by_cases hl : rows.length < m + 1 <;> simp [Except.map, hl, show (0 : Int) < m + 1 by omega]

end Df.Tie
