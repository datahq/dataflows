import DfProps.C02b

/-!
# C02 — rename_fields keeps every resource conforming

Whenever `rename_fields` succeeds on a conforming resource (it rejects two renames onto one name and
a rename onto the name of a field it leaves alone), the result conforms: field names stay distinct, and
every cell sits under the new name of the field it belonged to, whose type is unchanged.
-/

namespace Df

theorem hasDup_false_nodup : ∀ (l : List String), hasDup l = false → l.Nodup
  | [], _ => .nil
  | x :: xs, h => by
    simp only [hasDup, Bool.or_eq_false_iff, List.contains_eq_mem, decide_eq_false_iff_not] at h
    exact List.nodup_cons.mpr ⟨h.1, hasDup_false_nodup xs h.2⟩

/-- The row-phase lookup agrees with the package-phase decision on every declared field name: the rename map has
one entry per renamed field, keyed by names that are distinct. -/
theorem lookup_rename (O : ReOracle) (pairs : List (String × String)) :
    ∀ (fields : List Field), (fields.map Field.name).Nodup → ∀ f ∈ fields,
      lookupStr (fields.filterMap (fun f => (renameTarget O pairs f.name).map (fun t => (f.name, t)))) f.name =
        renameTarget O pairs f.name := by
  intro fields
  induction fields with
  | nil => intro _ f hf; cases hf
  | cons g rest ih =>
    intro hnd f hf
    obtain ⟨hg, hnd⟩ := List.nodup_cons.mp hnd
    rw [List.filterMap_cons]
    rcases List.mem_cons.mp hf with rfl | hf
    · cases ht : renameTarget O pairs f.name with
      | some t => simp [lookupStr]
      | none =>
        -- no later entry has this source name
        refine lookupStr_eq_none fun hk => hg ?_
        obtain ⟨e, he, hek⟩ := List.mem_map.mp hk
        obtain ⟨x, hx, hxe⟩ := List.mem_filterMap.mp he
        obtain ⟨t, -, rfl⟩ := Option.map_eq_some_iff.mp hxe
        exact hek ▸ List.mem_map_of_mem hx
    · have hne : g.name ≠ f.name := fun e => hg (e ▸ List.mem_map_of_mem hf)
      cases renameTarget O pairs g.name with
      | none => exact ih hnd f hf
      | some t => simp only [Option.map_some, lookupStr, hne, if_false]; exact ih hnd f hf

theorem renameFieldsRes_ok {O : ReOracle} {pairs : List (String × String)} {r r' : Res}
    (hr : renameFieldsRes O pairs r = .ok r') :
    ∃ fs mp, renameLoop O pairs r.fields [] = .ok (fs, mp) ∧ hasDup (fs.map Field.name) = false ∧
      r' = { r with fields := fs, rows := r.rows.map (renameRow mp) } := by
  simp only [renameFieldsRes, Except.bind_eq_ok] at hr
  obtain ⟨⟨fs, mp⟩, hloop, hr⟩ := hr
  simp only at hr
  split at hr
  · cases hr
  · cases hr; exact ⟨fs, mp, hloop, Bool.eq_false_iff.mpr ‹_›, rfl⟩

theorem C02_preserve_rename (V : Valid) (O : ReOracle) (pairs : List (String × String)) (r r' : Res)
    (h : ResOk V r) (hr : renameFieldsRes O pairs r = .ok r') : ResOk V r' := by
  obtain ⟨fs, mp, hloop, hdup, rfl⟩ := renameFieldsRes_ok hr
  obtain ⟨hfs, hmp, -⟩ := renameLoop_ok O pairs r.fields [] fs mp hloop
  refine h.mapRows (hasDup_false_nodup _ hdup) fun row hrow => RowOk.foldl_set (fun _ h => nomatch h) fun kv hkv => ?_
  -- a renamed cell sits under the new name of the field it belonged to
  obtain ⟨kv0, hkv0, rfl⟩ := List.mem_map.mp hkv
  obtain ⟨f, hf, hfn, hval⟩ := hrow kv0 hkv0
  refine ⟨{ f with name := (renameTarget O pairs f.name).getD f.name }, hfs ▸ List.mem_map_of_mem hf, ?_, hval⟩
  simp only
  rw [hmp, ← hfn, lookup_rename O pairs r.fields h.1 f hf]

theorem C02_step_renameFields (V : Valid) (O) (fields regex sel) (p q : Pkg) (hp : PkgOk V p)
    (h : renameFields O fields regex sel p = .ok q) : PkgOk V q :=
  C02_sel_step V (fun _ _ h => by obtain ⟨_, _, _, _, rfl⟩ := renameFieldsRes_ok h; rfl) (C02_preserve_rename V O _) hp h

/-- **add_computed_field (arithmetic operations) keeps a package conforming**, for every selector: the
target name is fresh and the sources are integer / number columns in every resource -/
theorem C02_step_addComputedField (V : Valid) (hV : NumV V) (O) (pyStr target op) (harith : CompOp.arith op)
    (sources w sel) (p q : Pkg) (hp : PkgOk V p)
    (hfresh : ∀ r ∈ p, target ∉ r.fieldNames)
    (hsrc : ∀ r ∈ p, ∀ f ∈ r.fields, f.name ∈ sources → f.type = "integer" ∨ f.type = "number")
    (h : addComputedField O pyStr target op sources w sel p = .ok q) : PkgOk V q := by
  simp only [addComputedField, Except.bind_eq_ok] at h
  obtain ⟨m, _, h⟩ := h
  have hname : ∀ r r', computedRes pyStr target op sources w r = .ok r' → r'.name = r.name := fun _ _ hr => by
    obtain ⟨_, rfl, _⟩ := computedRes_ok hr; rfl
  exact ⟨mapSel_names hname h ▸ hp.1, mapSel_forall
    (P := fun r => ResOk V r ∧ target ∉ r.fieldNames ∧ ∀ f ∈ r.fields, f.name ∈ sources → f.type = "integer" ∨ f.type = "number")
    (fun r hr => hr.1)
    (fun r r' hr hc => C02_preserve_computed V hV pyStr target op harith sources w r r' hr.1 hr.2.1 hr.2.2 hc)
    (fun r hr => ⟨hp.2 r hr, hfresh r hr, hsrc r hr⟩) h⟩

end Df
