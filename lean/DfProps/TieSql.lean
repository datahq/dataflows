import DfModel.Sql
import DfProps.TieBase

/-!
# Tie (C20): what `mode` means to `dump_to_sql`, **as written in /repo now**

`SQLDumper.process_resource` reads the `mode` of a table twice; both `if` statements are re-translated from
processors/dumpers/to_sql.py on every run:

    if mode == 'rewrite' and '' in storage.buckets:          -- Live.Py.sql_rewrite_drop
        storage.delete('')

    if mode == 'update':                                      -- Live.Py.sql_update_keys
        update_keys = converted_resource.get('update_keys')
        if update_keys is None:
            update_keys = schema_descriptor.get('primaryKey', [])

`Tie_sql_rewrite_drop`: the existing table is dropped exactly when the mode is `rewrite` (and the table exists) — the call to
`storage.delete` is made observable by letting it fail.  `Tie_sql_update_keys`: the keys handed to the writer are `None`
(plain inserts) unless the mode is `update`; then they are the explicit `update_keys` when given, else the schema's primary
key, else none — the `Mode` the `Df.Sql` model's `dump` is applied to (`modeOf`), which `C20_*` are about.
-/

namespace Df.Tie.Sql
open Df Df.Py

/-- the update keys the writer gets: `none` = plain inserts -/
def updateKeysOf (mode : String) (explicit pk : Option PV) : Option PV :=
  if mode = "update" then some (explicit.getD (pk.getD (.list []))) else none

/-- the model's mode for the three documented mode names, the keys as the list of names they are -/
def modeOf (mode : String) (keys : List String) : Option Df.Sql.Mode :=
  if mode = "rewrite" then some .rewrite else if mode = "append" then some .append
  else if mode = "update" then some (.update keys) else none

/-- a dict with an optional entry under `k`, among other entries that are not under `k` -/
def withOpt (k : String) (v : Option PV) (others : List (PV × PV)) : PV :=
  .dict (match v with | some x => (.str k, x) :: others | none => others)

def storagePV (buckets : List PV) : PV := .dict [(.str "buckets", .list buckets)]

theorem Tie_sql_rewrite_drop (ext : Ext) (mode : String) (buckets : List PV)
    (hdel : ext ".delete" [storagePV buckets, .str ""] = .error (.user "dropped")) :
    callFnEnv ext Live.Py.sql_rewrite_drop [.str mode, storagePV buckets]
      = if mode = "rewrite" ∧ PV.elem (.str "") buckets = true then .error (.user "dropped")
        else .ok [("storage", storagePV buckets), ("mode", .str mode)] := by
  unfold Live.Py.sql_rewrite_drop
  simp only [storagePV] at hdel
  by_cases hm : mode = "rewrite"
  · cases hb : PV.elem (.str "") buckets <;> simp [pyl, storagePV, hm, hb, hdel]
  · simp [pyl, hm]

/-- the value of `update_keys` after the statement (it is `None` before) -/
def keysAfter (ext : Ext) (mode : String) (conv schema : PV) : Except Err PV := do
  let env ← callFnEnv ext Live.Py.sql_update_keys [.str mode, conv, schema, .none]
  env.get "update_keys"

theorem Tie_sql_update_keys (ext : Ext) (mode : String) (explicit pk : Option PV) (co so : List (PV × PV))
    (hco : PV.lookup (.str "update_keys") co = none) (hso : PV.lookup (.str "primaryKey") so = none)
    (hex : ∀ v, explicit = some v → isNone v = false) :
    keysAfter ext mode (withOpt "update_keys" explicit co) (withOpt "primaryKey" pk so)
      = .ok ((updateKeysOf mode explicit pk).getD .none) := by
  unfold keysAfter Live.Py.sql_update_keys updateKeysOf
  by_cases hm : mode = "update"
  · cases explicit with
    | some v => simp [pyl, withOpt, hm, hex v rfl]
    | none => cases pk <;> simp [pyl, withOpt, hm, hco, hso]
  · simp [pyl, hm]

/-- the three documented modes: what reaches the writer is the model's `Mode` -/
theorem keys_are_model_mode (mode : String) (explicit pk : Option (List String)) :
    modeOf mode ((explicit.getD (pk.getD []))) =
      if mode = "rewrite" then some .rewrite else if mode = "append" then some .append
      else if mode = "update" then some (.update (explicit.getD (pk.getD []))) else none := rfl

/-- non-vacuity: explicit keys win over the primary key, which wins over nothing; other modes pass no keys -/
example : updateKeysOf "update" (some (.list [.str "a"])) (some (.list [.str "id"])) = some (.list [.str "a"]) := by simp [updateKeysOf]
example : updateKeysOf "update" none (some (.list [.str "id"])) = some (.list [.str "id"]) := by simp [updateKeysOf]
example : updateKeysOf "update" none none = some (.list []) := by simp [updateKeysOf]
example : updateKeysOf "append" (some (.list [.str "a"])) none = none := by simp [updateKeysOf]

end Df.Tie.Sql
