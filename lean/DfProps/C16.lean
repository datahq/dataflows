import DfProps.Util

/-!
# C16 — resource-level restructuring conserves rows
-/

namespace Df

/-! ## delete_resource -/

/-- delete_resource removes exactly the selected resources; the others keep descriptor, rows
and relative order -/
theorem C16_delete_exact (O : ReOracle) (sel : Sel) (p q : Pkg) (m : String → Bool)
    (hm : Sel.resolve O p.names sel = .ok m) (h : deleteResource O sel p = .ok q) :
    q = p.filter (fun r => !(m r.name)) ∧ q.Sublist p := by
  simp only [deleteResource, hm, Except.ok_bind, Except.pure_eq_ok] at h
  subst h
  exact ⟨rfl, List.filter_sublist⟩

/-! ## duplicate -/

/-- with `duplicate_to_end` the incoming resources are an untouched prefix and the copies
(same fields, key, rows; new name and path) follow at the end -/
theorem C16_duplicate_to_end (src tn tp : String) (p : Pkg) :
    duplicateDesc src tn tp true p =
      p ++ (p.filter (fun r => r.name = src)).map (fun r => { r with name := tn, path := tp }) := by
  simp [duplicateDesc]

/-- without it, the copy comes right after the (unique) source; everything else is untouched -/
theorem C16_duplicate_after (src tn tp : String) (pre post : Pkg) (r : Res)
    (hr : r.name = src) (hpre : ∀ x ∈ pre, x.name ≠ src) (hpost : ∀ x ∈ post, x.name ≠ src) :
    duplicateDesc src tn tp false (pre ++ r :: post) =
      pre ++ r :: { r with name := tn, path := tp } :: post := by
  have hid : ∀ l : Pkg, (∀ x ∈ l, x.name ≠ src) →
      l.flatMap (fun r => if r.name = src then [r, { r with name := tn, path := tp }] else [r]) = l := fun l h => by
    rw [List.flatMap_def, List.map_congr_left (g := fun r => [r]) fun x hx => if_neg (h x hx),
      ← List.flatMap_def, List.flatMap_singleton']
  simp [duplicateDesc, List.flatMap_append, List.flatMap_cons, hid pre hpre, hid post hpost, hr]

/-- the copy is exact: same schema, key and rows as the original -/
theorem C16_duplicate_copy_exact (src tn tp : String) (toEnd : Bool) (p : Pkg) :
    ∀ c ∈ duplicateDesc src tn tp toEnd p, c ∈ p ∨
      ∃ r ∈ p, r.name = src ∧ c = { r with name := tn, path := tp } := by
  intro c hc
  cases toEnd with
  | true =>
    simp only [duplicateDesc, if_true, List.mem_append, List.mem_map, List.mem_filter] at hc
    rcases hc with hc | ⟨r, ⟨hr, hn⟩, rfl⟩
    · exact Or.inl hc
    · exact Or.inr ⟨r, hr, by simpa using hn, rfl⟩
  | false =>
    simp only [duplicateDesc, Bool.false_eq_true, if_false, List.mem_flatMap] at hc
    obtain ⟨r, hr, hc⟩ := hc
    split at hc <;> simp only [List.mem_cons, List.not_mem_nil, or_false] at hc
    · rcases hc with rfl | rfl
      · exact Or.inl hr
      · exact Or.inr ⟨r, hr, ‹_›, rfl⟩
    · exact Or.inl (hc ▸ hr)

/-! ## concatenate -/

def totalRows (streams : List (List Row)) : Nat := (streams.map List.length).sum

theorem totalRows_cons (a : List Row) (l : List (List Row)) : totalRows (a :: l) = a.length + totalRows l := rfl

theorem totalRows_append (a b : List (List Row)) : totalRows (a ++ b) = totalRows a + totalRows b := by
  simp [totalRows]

theorem totalRows_eq (l : List (List Row)) : totalRows l = l.flatten.length := List.length_flatten.symm

theorem concatStreams_totalRows (m : String → Bool) (n : Nat) (f : Row → Except Err Row)
    (ins : List (String × List Row)) (outs : List (List Row)) (h : concatStreams m n f ins = .ok outs) :
    totalRows outs = totalRows (ins.map Prod.snd) := by
  fun_induction concatStreams m n f ins generalizing outs with
  | case1 => cases h; rfl
  | case2 name rows rest hm chained ih =>
    simp only [Except.bind_eq_ok, Except.pure_eq_ok] at h
    obtain ⟨out, hout, tail, htail, rfl⟩ := h
    -- `out` is as long as the chained streams, which are `rows` and the first `n-1` of `rest`
    rw [totalRows_cons, ih tail htail, mapM_ok_length hout, List.map_cons, totalRows_cons, List.length_append,
      ← totalRows_eq, Nat.add_assoc, ← totalRows_append, ← List.map_append, List.take_append_drop]
  | case3 name rows rest hm ih =>
    simp only [Except.bind_eq_ok, Except.pure_eq_ok] at h
    obtain ⟨tail, htail, rfl⟩ := h
    rw [totalRows_cons, ih tail htail, List.map_cons, totalRows_cons]

/-- concatenate's row phase neither loses nor invents rows: the emitted streams hold as many
rows as the incoming ones (each incoming row is mapped to exactly one target row, or passes
through), for every selector, every run length and every table size -/
theorem C16_concat_conservation (m : String → Bool) (n : Nat) (f : Row → Except Err Row) :
    ∀ (k : Nat) (ins : List (String × List Row)) (outs : List (List Row)), ins.length = k →
      concatStreams m n f ins = .ok outs →
      totalRows outs = totalRows (ins.map Prod.snd) :=
  fun _ ins outs _ => concatStreams_totalRows m n f ins outs

/-- streams of resources the selector does not match pass through unchanged, at the position
they had, up to the first selected one -/
theorem C16_concat_prefix_untouched (m : String → Bool) (n : Nat) (f : Row → Except Err Row)
    (name : String) (rows : List Row) (rest : List (String × List Row)) (outs : List (List Row))
    (hm : m name = false) (h : concatStreams m n f ((name, rows) :: rest) = .ok outs) :
    ∃ tail, outs = rows :: tail ∧ concatStreams m n f rest = .ok tail := by
  rw [concatStreams] at h
  simp only [hm, Bool.false_eq_true, if_false, Except.bind_eq_ok, Except.pure_eq_ok] at h
  obtain ⟨tail, htail, rfl⟩ := h
  exact ⟨tail, rfl, htail⟩

/-- at the first selected stream the output stream is the image of the concatenation, in
order, of that stream and the following `n-1` ones -/
theorem C16_concat_rows (m : String → Bool) (n : Nat) (f : Row → Except Err Row)
    (name : String) (rows : List Row) (rest : List (String × List Row)) (outs : List (List Row))
    (hm : m name = true) (h : concatStreams m n f ((name, rows) :: rest) = .ok outs) :
    ∃ out tail, outs = out :: tail ∧
      (rows ++ ((rest.take (n - 1)).map Prod.snd).flatten).mapM f = .ok out ∧
      concatStreams m n f (rest.drop (n - 1)) = .ok tail := by
  rw [concatStreams] at h
  simp only [hm, if_true, Except.bind_eq_ok, Except.pure_eq_ok] at h
  obtain ⟨out, hout, tail, htail, rfl⟩ := h
  exact ⟨out, tail, rfl, hout, htail⟩

/-- the mapped row carries every target field and only those -/
theorem concatRow_keys {targetFields : List String} {mp : List (String × String)} {row out : Row}
    (h : concatRow targetFields mp row = .ok out)
    (hmp : ∀ s t, lookupStr mp s = some t → t ∈ targetFields) (k : String) :
    k ∈ Row.keys out ↔ k ∈ targetFields := by
  simp only [concatRow] at h
  split at h
  · cases h
  · cases h
    -- keys of `update base vals` = keys of `base` (the target fields) ∪ keys of `vals` (mapped names)
    rw [Row.mem_keys_update, Row.mem_keys_ofPairs,
      show Row.keys (targetFields.map fun k => (k, Val.null)) = targetFields by simp [Row.keys, Function.comp_def],
      or_iff_left_iff_imp, Row.keys, List.mem_map]
    rintro ⟨⟨t, v⟩, hp, rfl⟩
    obtain ⟨kv, -, hkv⟩ := List.mem_filterMap.mp hp
    cases hl : lookupStr mp kv.1 with
    | none => simp [hl] at hkv
    | some t' =>
      simp only [hl, Option.ite_none_left_eq_some, Option.some.injEq, Prod.mk.injEq] at hkv
      exact hmp _ _ (hkv.2.1 ▸ hl)

theorem C16_concat_row_keys (targetFields : List String) (mp : List (String × String)) (row out : Row)
    (h : concatRow targetFields mp row = .ok out)
    (hmp : ∀ s t, lookupStr mp s = some t → t ∈ targetFields) :
    ∀ k, k ∈ Row.keys out → k ∈ targetFields :=
  fun k => (concatRow_keys h hmp k).mp

example : (concatStreams (fun n => n == "a" || n == "b") 2 (fun r => .ok r)
    [("x", [[("k", .int 0)]]), ("a", [[("k", .int 1)]]), ("b", [[("k", .int 2)], [("k", .int 3)]]), ("y", [])]).toOption.map
    (fun o => o.map List.length) = some [1, 3, 0] := by decide +kernel

end Df
