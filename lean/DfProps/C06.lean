import DfModel.Engine

/-!
# C06 — row-wise pipelines stream with bounded look-ahead

A machine is *row-wise* when its epilogue releases nothing (`NoFinOut`): whatever it
delivers, it delivers while the source item it derives from is the current one.  Chains of
row-wise machines are row-wise.  In the lazy run over a source whose first `S` items are
read ahead (schema-inference sample), at the moment an event derived from source item `k`
is delivered exactly `max (k+1) (min S n)` items have been read: the look-ahead is at most
`S - 1`, for every stream length `n`.

The theorems speak of the un-buffered trace `traceFrom`, with the pulls of the sample filtered out by
`Tr.afterBuffer`; no theorem mentions `traceBuffered`, the trace the driver runs.
-/

namespace Df.Engine

variable {α β γ ε : Type}

def NoFinOut (m : Mealy α β ε) : Prop := ∀ s, (m.fin s).1 = []

theorem rowWise_noFinOut (f : α → List β) (obs : α → List ε) : NoFinOut (rowWise f obs) := fun _ => rfl
theorem scanM_noFinOut {σ : Type} (s0 : σ) (f : σ → α → σ × List β) : NoFinOut (scanM (ε := ε) s0 f) := fun _ => rfl
theorem observer_noFinOut (rec : α → ε) (done : List ε) : NoFinOut (observer rec done) := fun _ => rfl
theorem tagged_noFinOut (i : Nat) (m : Mealy α β ε) (h : NoFinOut m) : NoFinOut (tagged i m) := fun s => h s
theorem idM_noFinOut : NoFinOut (idM : Mealy α α ε) := fun _ => rfl

theorem comp_noFinOut (m1 : Mealy α β ε) (m2 : Mealy β γ ε) (h1 : NoFinOut m1) (h2 : NoFinOut m2) :
    NoFinOut (comp m1 m2) := by
  intro s
  show (runFrom m2 s.2 (m1.fin s.1).1).1 = []
  rw [h1 s.1]
  exact h2 s.2

theorem C06_rowwise_chain (ms : List (Mealy α α ε)) (h : ∀ m ∈ ms, NoFinOut m) :
    ∀ i, NoFinOut (lazyChain i ms) := by
  induction ms with
  | nil => intro i; exact idM_noFinOut
  | cons m ms ih =>
    intro i
    exact comp_noFinOut _ _ (tagged_noFinOut i m (h m (by simp))) (ih (fun x hx => h x (by simp [hx])) (i + 1))

/-- a buffering step is not row-wise (the hypothesis has content) -/
theorem bufferM_not_rowwise : ¬ NoFinOut (bufferM (ε := ε) (fun l : List Nat => l)) := by
  intro h
  have := h [1]
  simp [bufferM] at this

def Tr.pullSat (Q : Nat → Bool) : Tr β → Bool
  | .pull i => Q i
  | .deliver _ _ => false

/-- In the trace of a row-wise machine from index `k`, a delivery stamped `j` refers to an item index in
`[k, k+n)` and is preceded by exactly the pulls of items `k … j`: whatever set `Q` of item indices one looks at
(all of them; those beyond a read-ahead buffer), the `Q`-pulls before the delivery are those of the `Q`-items
among `k … j`, in order. -/
theorem trace_pulls (m : Mealy α β ε) (hfin : NoFinOut m) (Q : Nat → Bool) :
    ∀ (xs : List α) (s : m.σ) (k p j : Nat) (b : β), (traceFrom m s k xs)[p]? = some (Tr.deliver j b) →
      k ≤ j ∧ j < k + xs.length ∧
      ((traceFrom m s k xs).take p).filter (Tr.pullSat Q) = ((List.range' k (j - k + 1)).filter Q).map Tr.pull := by
  intro xs
  induction xs with
  | nil => intro s k p j b h; simp [traceFrom, hfin s] at h
  | cons a as ih =>
    intro s k p j b h
    cases p with
    | zero => simp [traceFrom] at h
    | succ p =>
      simp only [traceFrom, List.getElem?_cons_succ] at h ⊢
      generalize (m.step s a).2.1 = outs at h ⊢
      simp only [List.take_succ_cons, List.take_append, List.filter_cons, List.filter_append, List.length_map]
      -- the deliveries of item `k` are no pulls
      rw [List.filter_eq_nil_iff.mpr fun e he => by
        obtain ⟨x, _, rfl⟩ := List.mem_map.mp (List.mem_of_mem_take he); simp [Tr.pullSat]]
      by_cases hp : p < outs.length
      · -- inside the block of item `k`
        rw [List.getElem?_append_left (by simpa using hp), List.getElem?_map] at h
        obtain ⟨o, _, ho⟩ := Option.map_eq_some_iff.mp h
        cases ho
        -- so `j = k`: before the delivery there is `pull k` and deliveries of item `k`
        cases hq : Q k <;> simp [Nat.sub_eq_zero_of_le (Nat.le_of_lt hp), Tr.pullSat, List.range'_succ, hq]
      · -- in the rest of the trace
        rw [List.getElem?_append_right (by simpa using Nat.le_of_not_lt hp), List.length_map] at h
        obtain ⟨h1, h2, h3⟩ := ih _ (k + 1) (p - outs.length) j b h
        refine ⟨Nat.le_of_succ_le h1, by rwa [List.length_cons, ← Nat.add_assoc, Nat.add_right_comm], ?_⟩
        -- `pull k`, deliveries of item `k`, then what the rest of the trace has before the delivery
        rw [h3, show j - k + 1 = (j - (k + 1) + 1) + 1 by omega, List.range'_succ (s := k)]
        cases hq : Q k <;> simp [Tr.pullSat, hq]

/-- `trace_pulls` for all pulls, counted. -/
theorem trace_shape (m : Mealy α β ε) (hfin : NoFinOut m) :
    ∀ (xs : List α) (s : m.σ) (k : Nat) (p : Nat) (j : Nat) (b : β),
      (traceFrom m s k xs)[p]? = some (Tr.deliver j b) →
      k ≤ j ∧ j < k + xs.length ∧ pullsBefore (traceFrom m s k xs) p = j - k + 1 := by
  intro xs s k p j b h
  obtain ⟨h1, h2, h3⟩ := trace_pulls m hfin (fun _ => true) xs s k p j b h
  have hp : (Tr.isPull : Tr β → Bool) = Tr.pullSat (fun _ => true) := by funext e; cases e <;> rfl
  exact ⟨h1, h2, by simp [pullsBefore, hp, h3, List.filter_eq_self.mpr]⟩

/-- **C06 (no buffer).** In the lazy run of a row-wise chain, when an event derived from
source item `j` is delivered, exactly `j + 1` items have been read: look-ahead 0. -/
theorem C06_lookahead_unbuffered (m : Mealy α β ε) (hfin : NoFinOut m) (xs : List α) (p j : Nat) (b : β)
    (h : (traceFrom m m.init 0 xs)[p]? = some (Tr.deliver j b)) :
    j < xs.length ∧ pullsBefore (traceFrom m m.init 0 xs) p = j + 1 := by
  obtain ⟨_, h2, h3⟩ := trace_shape m hfin xs m.init 0 p j b h
  exact ⟨by simpa using h2, by simpa using h3⟩

theorem filter_pull_range (S : Nat) :
    ((List.range S).map (Tr.pull (β := β))).filter Tr.isPull = (List.range S).map Tr.pull :=
  List.filter_eq_self.mpr fun e he => by obtain ⟨x, _, rfl⟩ := List.mem_map.mp he; rfl

theorem filter_ge_range (S n : Nat) : (List.range n).filter (fun i => decide (S ≤ i)) = List.range' S (n - S) := by
  induction n with
  | zero => simp
  | succ n ih =>
    rw [List.range_succ, List.filter_append, ih]
    by_cases hs : S ≤ n
    · simp [hs, Nat.succ_sub hs, List.range'_concat, Nat.add_sub_cancel' hs]
    · simp [hs, Nat.sub_eq_zero_of_le (Nat.le_of_not_le hs), Nat.sub_eq_zero_of_le (Nat.lt_of_not_le hs)]

theorem lookahead_arith (S n j : Nat) (hj : j < n) :
    min S n + (j + 1 - S) = max (j + 1) (min S n) ∧ max (j + 1) (min S n) - (j + 1) ≤ S - 1 := by
  rcases Nat.lt_or_ge (j + 1) S with hs | hs
  · have hm : j + 1 ≤ min S n := Nat.le_min.mpr ⟨Nat.le_of_lt hs, hj⟩
    have := Nat.min_le_left S n
    rw [Nat.max_eq_right hm, Nat.sub_eq_zero_of_le (Nat.le_of_lt hs)]
    generalize min S n = t at *
    omega
  · have hm : min S n = S := Nat.min_eq_left (Nat.le_trans hs hj)
    rw [hm, Nat.max_eq_left hs, Nat.add_sub_cancel' hs, Nat.sub_self]
    exact ⟨rfl, Nat.zero_le _⟩

/-- With a read-ahead sample of `S` items, when an event derived from source item `j` (0-based, of `n`) is
delivered, exactly `max (j+1) (min S n)` items have been read: the sample up front, then the pulls of the
items `≥ S` among the first `j+1`. -/
theorem lookahead_exact (m : Mealy α β ε) (hfin : NoFinOut m) (S : Nat) (xs : List α) (p j : Nat) (b : β)
    (h : (traceFrom m m.init 0 xs)[p]? = some (Tr.deliver j b)) :
    j < xs.length ∧ min S xs.length +
      ((((traceFrom m m.init 0 xs).take p).filter (Tr.afterBuffer S)).filter Tr.isPull).length =
      max (j + 1) (min S xs.length) := by
  obtain ⟨_, hj, hp⟩ := trace_pulls m hfin (fun i => decide (S ≤ i)) xs m.init 0 p j b h
  rw [Nat.zero_add] at hj
  have hQ : ∀ l : List (Tr β), (l.filter (Tr.afterBuffer S)).filter Tr.isPull = l.filter (Tr.pullSat fun i => decide (S ≤ i)) := by
    intro l; rw [List.filter_filter]; apply List.filter_congr; intro e _; cases e <;> simp [Tr.isPull, Tr.afterBuffer, Tr.pullSat]
  rw [hQ, hp, List.length_map, Nat.sub_zero, ← List.range_eq_range', filter_ge_range, List.length_range']
  exact ⟨hj, (lookahead_arith S xs.length j hj).1⟩

/-- **C06.** With a read-ahead sample of `S` items, when an event derived from source item `j`
(0-based, of `n`) is delivered the number of items read is at most `max (j+1) (min S n)`:
the look-ahead never exceeds `S - 1`, whatever the length of the stream.

Stated on the un-buffered trace: the pulls performed before position `p` are those of the
sample (`min S n`, up front) plus the pulls of items `≥ S` among the first `j+1`. -/
theorem C06_lookahead (m : Mealy α β ε) (hfin : NoFinOut m) (S : Nat) (xs : List α) (p j : Nat) (b : β)
    (h : (traceFrom m m.init 0 xs)[p]? = some (Tr.deliver j b)) :
    let pulled := min S xs.length +
      ((((traceFrom m m.init 0 xs).take p).filter (Tr.afterBuffer S)).filter Tr.isPull).length
    pulled ≤ max (j + 1) (min S xs.length) ∧ pulled - (j + 1) ≤ S - 1 := by
  intro pulled
  obtain ⟨hj, he⟩ := lookahead_exact m hfin S xs p j b h
  rw [show pulled = _ from he]
  exact ⟨Nat.le_refl _, (lookahead_arith S xs.length j hj).2⟩

/-- non-vacuity: a filter followed by a 2-way flat-map is row-wise -/
example : NoFinOut (comp (rowWise (ε := Unit) (fun n : Nat => if n % 2 = 0 then [n] else []) (fun _ => []))
    (rowWise (fun n => [n, n + 1]) (fun _ => []))) :=
  comp_noFinOut _ _ (rowWise_noFinOut _ _) (rowWise_noFinOut _ _)

end Df.Engine
