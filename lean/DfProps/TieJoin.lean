import DfProps.TieRow
import DfModel.Join

/-!
# Tie (C11, C02): join's aggregator table **as written in /repo now** = the model's `aggStep` / `finalise`

`Generated/PyAst.lean` holds the syntax of `AGGREGATORS[k].func` and `.finaliser` (and of `median`,
`update_counter`, `identity`) re-translated from the working tree on every run.  The theorems below
say that evaluating that syntax on embedded model values gives the embedded result of the model's
`aggStep` / `finalise` — for every state and every new value of the stated domain.  The C11 theorems
(`C11_sum` …, about `aggStep`/`finalise`) therefore speak about the code that is there now; a change
to a lambda of the table changes the generated term and the corresponding theorem here is re-checked.

Domain: integer or string columns (one Table Schema type per column); `sum`,
`avg`, `median` over integers (the model's arithmetic is integer arithmetic); states as `aggStep`
produces them.  Decimals, booleans mixed with integers and nested values are outside these theorems
and are covered by the `join` correspondence and the C11 oracle only.
-/

namespace Df.Tie
open Df Df.Py Df.Join

/-- integer or text: the values of a key-like or numeric column -/
def plain : Val → Bool
  | .int _ => true
  | .str _ => true
  | _ => false

theorem beq_emb {a b : Val} (ha : plain a = true) (hb : plain b = true) :
    PV.beq (embVal a) (embVal b) = decide (a = b) := by
  -- a plain value is an integer or a text: four pairs, compared by `PV.beq` as `Val`'s equality compares them
  rcases a with _ | _ | i | s | _ | _ <;> try cases ha
  all_goals rcases b with _ | _ | j | t | _ | _ <;> try cases hb
  · simp only [embVal, PV.beq, Val.int.injEq]; rfl
  · rfl
  · rfl
  · simp only [embVal, PV.beq, Val.str.injEq]; rfl

theorem embVal_isNone {v : Val} (h : v ≠ .null) : isNone (embVal v) = false := by
  cases v <;> simp_all [embVal, isNone]

/-- the Python state of an aggregator, as the embedded model state -/
def embSt : Agg → AS → PV
  | .avg, .avg k s => .tuple [.int k, .int s]
  | .count, .avg k _ => .int k
  | .set, .list xs => .set (xs.map embVal)
  | _, .v x => embVal x
  | _, .list xs => .list (xs.map embVal)
  | _, .counts cs => .counter (cs.map (fun c => (embVal c.1, .int c.2)))
  | _, .avg k s => .tuple [.int k, .int s]

def embOptSt (a : Agg) : Option AS → PV
  | none => .none
  | some s => embSt a s

def embAV : AV → PV
  | .v x => embVal x
  | .list xs => .list (xs.map embVal)
  | .quot n d => .fdiv (.int n) (.int d)
  | .half (.int a) (.int b) => .fdiv (.int (a + b)) (.int 2)
  | .half a b => .fdiv (.tuple [embVal a, embVal b]) (.int 2)
  | .counts cs => .list (cs.map (fun c => .tuple [embVal c.1, .int c.2]))

theorem Tie_join_sum_func (ext : Ext) (c : Option Int) (n : Int) :
    callFn ext Live.Py.agg_sum_func [embOptSt .sum (c.map (fun i => .v (.int i))), embVal (.int n)]
      = .ok (embSt .sum (aggStep .sum (c.map (fun i => .v (.int i))) (.int n))) := by
  cases c <;> rfl

theorem Tie_join_avg_func (ext : Ext) (c : Option (Nat × Int)) (n : Int) :
    callFn ext Live.Py.agg_avg_func [embOptSt .avg (c.map (fun p => .avg p.1 p.2)), embVal (.int n)]
      = .ok (embSt .avg (aggStep .avg (c.map (fun p => .avg p.1 p.2)) (.int n))) := by
  cases c <;> rfl

theorem Tie_join_count_func (ext : Ext) (c : Option (Nat × Int)) (new : Val) :
    callFn ext Live.Py.agg_count_func [embOptSt .count (c.map (fun p => .avg p.1 p.2)), embVal new]
      = .ok (embSt .count (aggStep .count (c.map (fun p => .avg p.1 p.2)) new)) := by
  cases c <;> rfl

theorem Tie_join_array_func (ext : Ext) (c : Option (List Val)) (new : Val) :
    callFn ext Live.Py.agg_array_func [embOptSt .array (c.map .list), embVal new]
      = .ok (embSt .array (aggStep .array (c.map .list) new)) := by
  cases c with
  | none => rfl
  | some xs => exact (rfl : _ = Except.ok (PV.list (xs.map embVal ++ [embVal new]))).trans (by simp [aggStep, embSt])

/-- the lambda of `median` is that of `array` -/
theorem Tie_join_median_func (ext : Ext) (c : Option (List Val)) (new : Val) :
    callFn ext Live.Py.agg_median_func [embOptSt .median (c.map .list), embVal new]
      = .ok (embSt .median (aggStep .median (c.map .list) new)) := by
  cases c with
  | none => rfl
  | some xs => exact Tie_join_array_func ext (some xs) new

theorem Tie_join_last_func (ext : Ext) (c : Option AS) (new : Val) :
    callFn ext Live.Py.agg_last_func [embOptSt .last c, embVal new]
      = .ok (embSt .last (aggStep .last c new)) := rfl

theorem Tie_join_any_func (ext : Ext) (c : Option AS) (new : Val) :
    callFn ext Live.Py.agg_any_func [embOptSt .any c, embVal new]
      = .ok (embSt .any (aggStep .any c new)) := rfl

/-- `first`: the state holds a non-null value (states are only built from non-null values) -/
theorem Tie_join_first_func (ext : Ext) (c : Option Val) (hc : ∀ v, c = some v → v ≠ .null) (new : Val) :
    callFn ext Live.Py.agg_first_func [embOptSt .first (c.map .v), embVal new]
      = .ok (embSt .first (aggStep .first (c.map .v) new)) := by
  cases c with
  | none => rfl
  | some v =>
    have := embVal_isNone (hc v rfl)
    unfold Live.Py.agg_first_func; simp [pyl, embOptSt, embSt, aggStep, this]

/-! `max(new, curr)` / `min(new, curr)`: Python's `<` on two integers or two texts is the negation of the model's `vle` -/

theorem lt_int (a b : Int) : PV.lt (.int a) (.int b) = .ok (!vle (.int b) (.int a)) := by
  simp only [PV.lt, vle, ← decide_not, Int.not_le]

theorem lt_str (a b : String) : PV.lt (.str a) (.str b) = .ok (!vle (.str b) (.str a)) := by
  simp only [PV.lt, vle, ← decide_not]; exact congrArg _ (decide_eq_decide.mpr Decidable.not_not.symm)

theorem max_some (ext : Ext) (c n : Val) (hn : isNone (embVal c) = false) (h : PV.lt (embVal n) (embVal c) = .ok (!vle c n)) :
    callFn ext Live.Py.agg_max_func [embOptSt .max (some (.v c)), embVal n] = .ok (embSt .max (aggStep .max (some (.v c)) n)) := by
  unfold Live.Py.agg_max_func; simp [pyl, embOptSt, embSt, aggStep, hn, h]; cases vle c n <;> rfl

theorem min_some (ext : Ext) (c n : Val) (hn : isNone (embVal c) = false) (h : PV.lt (embVal c) (embVal n) = .ok (!vle n c)) :
    callFn ext Live.Py.agg_min_func [embOptSt .min (some (.v c)), embVal n] = .ok (embSt .min (aggStep .min (some (.v c)) n)) := by
  unfold Live.Py.agg_min_func; simp [pyl, embOptSt, embSt, aggStep, hn, h]; cases vle n c <;> rfl

theorem Tie_join_max_func_int (ext : Ext) (c : Option Int) (n : Int) :
    callFn ext Live.Py.agg_max_func [embOptSt .max (c.map (fun i => .v (.int i))), embVal (.int n)]
      = .ok (embSt .max (aggStep .max (c.map (fun i => .v (.int i))) (.int n))) := by
  cases c with
  | none => rfl
  | some c => exact max_some ext _ _ rfl (lt_int n c)

theorem Tie_join_min_func_int (ext : Ext) (c : Option Int) (n : Int) :
    callFn ext Live.Py.agg_min_func [embOptSt .min (c.map (fun i => .v (.int i))), embVal (.int n)]
      = .ok (embSt .min (aggStep .min (c.map (fun i => .v (.int i))) (.int n))) := by
  cases c with
  | none => rfl
  | some c => exact min_some ext _ _ rfl (lt_int c n)

theorem Tie_join_max_func_str (ext : Ext) (c : Option String) (n : String) :
    callFn ext Live.Py.agg_max_func [embOptSt .max (c.map (fun i => .v (.str i))), embVal (.str n)]
      = .ok (embSt .max (aggStep .max (c.map (fun i => .v (.str i))) (.str n))) := by
  cases c with
  | none => rfl
  | some c => exact max_some ext _ _ rfl (lt_str n c)

theorem Tie_join_min_func_str (ext : Ext) (c : Option String) (n : String) :
    callFn ext Live.Py.agg_min_func [embOptSt .min (c.map (fun i => .v (.str i))), embVal (.str n)]
      = .ok (embSt .min (aggStep .min (c.map (fun i => .v (.str i))) (.str n))) := by
  cases c with
  | none => rfl
  | some c => exact min_some ext _ _ rfl (lt_str c n)

/-- `set` over an integer or text column: `curr.union({new})` -/
theorem Tie_join_set_func (ext : Ext) (c : Option (List Val)) (new : Val) (hn : plain new = true)
    (hc : ∀ xs, c = some xs → ∀ y ∈ xs, plain y = true) :
    callFn ext Live.Py.agg_set_func [embOptSt .set (c.map .list), embVal new]
      = .ok (embSt .set (aggStep .set (c.map .list) new)) := by
  cases c with
  | none => rfl
  | some xs =>
    refine (rfl : _ = Except.ok (PV.set (if PV.elem (embVal new) (xs.map embVal) then xs.map embVal else xs.map embVal ++ [embVal new]))).trans ?_
    rw [elem_map embVal new xs fun y hy => beq_emb (hc xs rfl y hy) hn]
    by_cases h : new ∈ xs <;> simp [aggStep, embSt, h]

theorem cbump_emb {x : Val} {cs : List (Val × Nat)} (hx : plain x = true) (hcs : ∀ c ∈ cs, plain c.1 = true) :
    cbump (embVal x) (cs.map (fun c => (embVal c.1, PV.int c.2))) = (bump cs x).map (fun c => (embVal c.1, PV.int c.2)) := by
  induction cs with
  | nil => simp [cbump, bump]
  | cons c cs ih =>
    have hc : plain c.1 = true := hcs c (by simp)
    have := ih (fun z hz => hcs z (by simp [hz]))
    simp only [List.map_cons, cbump, bump, beq_emb hc hx]
    by_cases h : c.1 = x <;> simp [h, this]

/-- `update_counter(curr, new)` for a text value -/
theorem Tie_join_update_counter (ext : Ext) (c : Option (List (Val × Nat))) (s : String)
    (hc : ∀ cs, c = some cs → ∀ y ∈ cs, plain y.1 = true) :
    callFn ext Live.Py.update_counter [embOptSt .counters (c.map .counts), embVal (.str s)]
      = .ok (embSt .counters (aggStep .counters (c.map .counts) (.str s))) := by
  cases c with
  | none => rfl
  | some cs =>
    refine (rfl : _ = Except.ok (PV.counter (cbump (embVal (.str s)) (cs.map (fun c => (embVal c.1, PV.int c.2)))))).trans ?_
    rw [cbump_emb rfl (hc cs rfl)]; rfl

/-- `counters` over a text column: the table's lambda reaches `update_counter` through the table of translated functions -/
theorem Tie_join_counters_func (ext : Ext) (c : Option (List (Val × Nat))) (s : String)
    (hc : ∀ cs, c = some cs → ∀ y ∈ cs, plain y.1 = true) :
    runFn Live.Py.table ext 2 "agg_counters_func" [embOptSt .counters (c.map .counts), embVal (.str s)]
      = .ok (embSt .counters (aggStep .counters (c.map .counts) (.str s))) := by
  have l1 : Live.Py.table.lookup "agg_counters_func" = some Live.Py.agg_counters_func := by simp [Live.Py.table, lookup_cons]
  have l2 : Live.Py.table.lookup "update_counter" = some Live.Py.update_counter := by simp [Live.Py.table, lookup_cons]
  rw [runFn_succ l1]
  unfold Live.Py.agg_counters_func
  simp only [callFn, bindParams, exec, evalE, evalArgs, applyFn, Env.set, get_cons, bind, Except.bind, String.reduceEq, if_true, if_false]
  rw [runFn_succ l2, Tie_join_update_counter _ c s hc]; rfl

/-- the finalisers that are `identity` (sum, max, min, first, last, any): the state's value, or None -/
theorem Tie_join_identity_finaliser (ext : Ext) (f : Fn) (hf : f = Live.Py.identity) (a : Agg)
    (ha : a = .sum ∨ a = .max ∨ a = .min ∨ a = .first ∨ a = .last ∨ a = .any) (c : Option Val) :
    callFn ext f [embOptSt a (c.map .v)] = .ok (embAV (finalise a (c.map .v))) := by
  subst hf
  refine (rfl : _ = Except.ok (embOptSt a (c.map .v))).trans (congrArg _ ?_)
  rcases ha with h | h | h | h | h | h <;> subst h <;> cases c <;> rfl

theorem agg_sum_finaliser_is_identity : Live.Py.agg_sum_finaliser = Live.Py.identity := by rfl
theorem agg_max_finaliser_is_identity : Live.Py.agg_max_finaliser = Live.Py.identity := by rfl
theorem agg_min_finaliser_is_identity : Live.Py.agg_min_finaliser = Live.Py.identity := by rfl
theorem agg_first_finaliser_is_identity : Live.Py.agg_first_finaliser = Live.Py.identity := by rfl
theorem agg_last_finaliser_is_identity : Live.Py.agg_last_finaliser = Live.Py.identity := by rfl
theorem agg_any_finaliser_is_identity : Live.Py.agg_any_finaliser = Live.Py.identity := by rfl
theorem agg_count_finaliser_is_identity : Live.Py.agg_count_finaliser = Live.Py.identity := by rfl


theorem Tie_join_count_finaliser (ext : Ext) (c : Option (Nat × Int)) :
    callFn ext Live.Py.agg_count_finaliser [embOptSt .count (c.map (fun p => .avg p.1 p.2))]
      = .ok (embAV (finalise .count (c.map (fun p => .avg p.1 p.2)))) := by
  cases c <;> rfl

/-- `avg`: the quotient of the two components of the state (at least one value was seen) -/
theorem Tie_join_avg_finaliser (ext : Ext) (c : Option (Nat × Int)) (hc : ∀ p, c = some p → p.1 ≠ 0) :
    callFn ext Live.Py.agg_avg_finaliser [embOptSt .avg (c.map (fun p => .avg p.1 p.2))]
      = .ok (embAV (finalise .avg (c.map (fun p => .avg p.1 p.2)))) := by
  cases c with
  | none => rfl
  | some p =>
    unfold Live.Py.agg_avg_finaliser; simp [pyl, embOptSt, embSt, hc p rfl]; rfl

theorem Tie_join_set_finaliser (ext : Ext) (c : Option (List Val)) :
    callFn ext Live.Py.agg_set_finaliser [embOptSt .set (c.map .list)]
      = .ok (embAV (finalise .set (c.map .list))) := by
  cases c <;> rfl

theorem Tie_join_array_finaliser (ext : Ext) (c : Option (List Val)) :
    callFn ext Live.Py.agg_array_finaliser [embOptSt .array (c.map .list)]
      = .ok (embAV (finalise .array (c.map .list))) := by
  cases c <;> rfl

theorem insertC_emb (x : Val × Nat) (cs : List (Val × Nat)) :
    Py.insertC (embVal x.1, PV.int x.2) (cs.map (fun c => (embVal c.1, PV.int c.2)))
      = (Join.insertC x cs).map (fun c => (embVal c.1, PV.int c.2)) := by
  induction cs with
  | nil => simp [Py.insertC, Join.insertC]
  | cons c cs ih =>
    simp only [List.map_cons, Py.insertC, Join.insertC, cntOf, Int.ofNat_le]
    by_cases h : c.2 ≤ x.2 <;> simp [h, ih]

theorem mostCommon_emb (cs : List (Val × Nat)) :
    Py.mostCommon (cs.map (fun c => (embVal c.1, PV.int c.2)))
      = (Join.mostCommon cs).map (fun c => (embVal c.1, PV.int c.2)) :=
  List.foldr_map.trans (List.foldr_hom (List.map fun c : Val × Nat => (embVal c.1, PV.int c.2)) (init := []) insertC_emb)

theorem Tie_join_counters_finaliser (ext : Ext) (c : Option (List (Val × Nat))) :
    callFn ext Live.Py.agg_counters_finaliser [embOptSt .counters (c.map .counts)]
      = .ok (embAV (finalise .counters (c.map .counts))) := by
  cases c with
  | none => rfl
  | some cs =>
    refine (rfl : _ = Except.ok (PV.list ((Py.mostCommon (cs.map (fun c => (embVal c.1, PV.int c.2)))).map (fun kv => .tuple [kv.1, kv.2])))).trans ?_
    simp [mostCommon_emb, embAV, finalise]

def insI (x : Int) : List Int → List Int
  | [] => [x]
  | y :: ys => if x ≤ y then x :: y :: ys else y :: insI x ys
def sortI (xs : List Int) : List Int := xs.foldr insI []

theorem insI_length (x : Int) (ys : List Int) : (insI x ys).length = ys.length + 1 := by
  induction ys with
  | nil => rfl
  | cons y ys ih => simp only [insI]; split <;> simp [ih]

theorem sortI_length (xs : List Int) : (sortI xs).length = xs.length := by
  induction xs with
  | nil => rfl
  | cons x xs ih => simp [sortI] at ih ⊢; rw [insI_length, ih]

theorem insertV_int (x : Int) (ys : List Int) :
    insertV (.int x) (ys.map Val.int) = (insI x ys).map Val.int := by
  induction ys with
  | nil => rfl
  | cons y ys ih => simp only [List.map_cons, insertV, insI, vle]; by_cases h : x ≤ y <;> simp [h, ih]

theorem insertBy_int (x : Int) (ys : List Int) :
    insertBy leD (.int x) (ys.map PV.int) = (insI x ys).map PV.int := by
  induction ys with
  | nil => rfl
  | cons y ys ih =>
    simp only [List.map_cons, insertBy, insI, leD, PV.lt, ← decide_not, Int.not_lt]
    by_cases h : x ≤ y <;> simp [h, ih]

theorem sortV_int (xs : List Int) : sortV (xs.map Val.int) = (sortI xs).map Val.int :=
  List.foldr_map.trans (List.foldr_hom (List.map Val.int) (init := []) insertV_int)

theorem sortBy_int (xs : List Int) : sortBy leD (xs.map PV.int) = (sortI xs).map PV.int :=
  List.foldr_map.trans (List.foldr_hom (List.map PV.int) (init := []) insertBy_int)

@[simp] theorem allInts_int (xs : List Int) : allInts (xs.map PV.int) = true := by
  induction xs with
  | nil => rfl
  | cons x xs ih => simpa [allInts] using ih


theorem Tie_join_median_finaliser_some (ext : Ext) (xs : List Int) (hne : xs ≠ []) :
    callFn ext Live.Py.agg_median_finaliser [PV.list (xs.map PV.int)]
      = .ok (embAV (medianOf (xs.map Val.int))) := by
  have hlen := sortI_length xs
  have hpos : 0 < xs.length := List.length_pos_iff.mpr hne
  have h2 : xs.length / 2 < (sortI xs).length := by omega
  have hcast : ((xs.length : Int) / 2) = ((xs.length / 2 : Nat) : Int) := by omega
  have i2 : pyIndexPV ((sortI xs).map PV.int) ((xs.length : Int) / 2) = .ok (.int (sortI xs)[xs.length / 2]) := by
    rw [hcast, pyIndexPV_nat _ _ (by simpa using h2)]; simp
  unfold callFn Live.Py.agg_median_finaliser
  simp only [bindParams, Env.set, bind, Except.bind]
  -- `if values is None`, `ll`, `mid`, `values = sorted(values)`, then the parity test: each evaluated once
  rw [exec_guard (v := .bool false) (by simp [pyl]), truthy_bool, if_neg Bool.false_ne_true,
    exec_seq_assign (v := .int xs.length) (by simp [pyl]),
    exec_seq_assign (v := .int ((xs.length : Int) / 2)) (by simp [pyl]),
    exec_seq_assign (v := .list ((sortI xs).map PV.int)) (by simp [pyl, sortBy_int]),
    exec_ite (v := .bool ((xs.length : Int) % 2 == 0)) (by simp [pyl])]
  simp only [medianOf, sortV_int, List.length_map, hlen, truthy_bool, beq_iff_eq]
  by_cases hev : xs.length % 2 = 0
  · have hi : (xs.length : Int) % 2 = 0 := by omega
    have h1 : xs.length / 2 - 1 < (sortI xs).length := by omega
    have i1 : pyIndexPV ((sortI xs).map PV.int) ((xs.length : Int) / 2 - 1) = .ok (.int (sortI xs)[xs.length / 2 - 1]) := by
      rw [show (xs.length : Int) / 2 - 1 = ((xs.length / 2 - 1 : Nat) : Int) by omega, pyIndexPV_nat _ _ (by simpa using h1)]; simp
    simp [hev, hi, pyl, i1, i2, List.getElem?_eq_getElem h1, List.getElem?_eq_getElem h2, embAV]
  · have hi : ¬ (xs.length : Int) % 2 = 0 := by omega
    simp [hev, hi, pyl, i2, List.getElem?_eq_getElem h2, embAV]

theorem agg_median_finaliser_is_median : Live.Py.agg_median_finaliser = Live.Py.median := by rfl

theorem Tie_join_median_finaliser (ext : Ext) (c : Option (List Int)) (hc : ∀ xs, c = some xs → xs ≠ []) :
    callFn ext Live.Py.agg_median_finaliser [embOptSt .median (c.map (fun xs => .list (xs.map Val.int)))]
      = .ok (embAV (finalise .median (c.map (fun xs => .list (xs.map Val.int))))) := by
  cases c with
  | none => rfl
  | some xs =>
    have h := Tie_join_median_finaliser_some ext xs (hc xs rfl)
    have e : List.map embVal (List.map Val.int xs) = List.map PV.int xs := by simp [List.map_map, Function.comp_def]
    simp only [embOptSt, embSt, Option.map, finalise, e]
    exact h

end Df.Tie
