import DfProps.TieBase
import DfModel.Ejson

/-!
# Tie (C07): the encoder's dispatch `CommonJSONEncoder.default` **as written in /repo now**

`default(obj)` decides by a chain of `isinstance` tests which tag a value that plain JSON cannot hold is written under.
The chain is re-translated from helpers/extended_json.py on every run (`Live.Py.ejson_default`).  The tests are answered the
way Python's classes answer them — in particular **a `datetime` is also a `date`**, so the order of the tests matters — and
every leaf conversion (`str`, `strftime` with the format constant of that kind, `utcoffset().total_seconds()`, `tzname`,
`duration_isoformat`) is an external whose result is a parameter.

`Tie_ejson_default`: for every kind of value the returned object has exactly one member, keyed by the tag the model's
`Ejson.enc` uses for that kind (`Tie_ejson_tag_matches_model`), holding the payload the model describes: the text for
decimals / dates / times / durations, the triple (text, offset seconds or None, zone name or None) for datetimes, the list
of members for sets; any other object is handed to the base class (which raises `TypeError`).  `C07_ejson_roundtrip` is
about `enc`; this theorem says `enc`'s case analysis is the code's.
-/

namespace Df.Tie
open Df Df.Py

/-- what the encoder can be handed, with the results of the leaf conversions -/
inductive EObj where
  | dec (txt : String)
  | time (txt : String)
  | dtime (txt : String) (tz : Option (Int × String))
  | date (txt : String)
  | dur (iso : String) (isTimedelta : Bool)
  | set (xs : List PV)
  | other

def EObj.pv : EObj → PV
  | .set xs => .set xs
  | _ => .opaque "object" ""

/-- the format constants in their `%Y` form: the values of `*_P_FORMAT` and `TIME_F_FORMAT`; `DATE_F_FORMAT` and
`DATETIME_F_FORMAT` are these only where `strftime('%04Y')` is not supported, `%04Y-…` elsewhere (`C03` allows both) -/
def TF : PV := .str "%H:%M:%S"
def DTF : PV := .str "%Y-%m-%dT%H:%M:%S"
def DF : PV := .str "%Y-%m-%d"

/-- Python's answers for an object of that kind -/
def ejExt (o : EObj) : Ext := fun f args =>
  match f, args with
  | "isinstance:Decimal", [_] => .ok (.bool (match o with | .dec _ => true | _ => false))
  | "isinstance:time", [_] => .ok (.bool (match o with | .time _ => true | _ => false))
  | "isinstance:datetime", [_] => .ok (.bool (match o with | .dtime _ _ => true | _ => false))
  | "isinstance:date", [_] => .ok (.bool (match o with | .dtime _ _ => true | .date _ => true | _ => false))   -- datetime ⊂ date
  | "isinstance:Duration", [_] => .ok (.bool (match o with | .dur _ false => true | _ => false))
  | "isinstance:timedelta", [_] => .ok (.bool (match o with | .dur _ true => true | _ => false))
  | "isinstance:set", [_] => .ok (.bool (match o with | .set _ => true | _ => false))
  | "str", [_] => (match o with | .dec t => .ok (.str t) | _ => .error (.missingExt f))
  | ".strftime", [_, fmt] =>
    (match o with
     | .time t => if PV.same fmt TF then .ok (.str t) else .error (.missingExt "strftime with another format")
     | .dtime t _ => if PV.same fmt DTF then .ok (.str t) else .error (.missingExt "strftime with another format")
     | .date t => if PV.same fmt DF then .ok (.str t) else .error (.missingExt "strftime with another format")
     | _ => .error (.missingExt f))
  | ".utcoffset", [_] => (match o with
     | .dtime _ (some (off, _)) => .ok (.tuple [.str "timedelta", .int off])
     | .dtime _ Option.none => .ok .none
     | _ => .error (.missingExt f))
  | ".total_seconds", [.tuple [.str "timedelta", .int off]] => .ok (.int off)
  | ".tzname", [_] => (match o with
     | .dtime _ (some (_, nm)) => .ok (.str nm)
     | .dtime _ Option.none => .ok .none
     | _ => .error (.missingExt f))
  | "isodate.duration_isoformat", [_] => (match o with | .dur iso _ => .ok (.str iso) | _ => .error (.missingExt f))
  | "super", [] => .ok (.opaque "super" "")
  | ".default", [_, _] => .error (.user "TypeError")
  | _, _ => .error (.missingExt f)

def EObj.expected : EObj → Except Err PV
  | .dec t => .ok (.dict [(.str "type{decimal}", .str t)])
  | .time t => .ok (.dict [(.str "type{time}", .str t)])
  | .dtime t (some (off, nm)) => .ok (.dict [(.str "type{datetime}", .tuple [.str t, .int off, .str nm])])
  | .dtime t Option.none => .ok (.dict [(.str "type{datetime}", .tuple [.str t, .none, .none])])
  | .date t => .ok (.dict [(.str "type{date}", .str t)])
  | .dur iso _ => .ok (.dict [(.str "type{duration}", .str iso)])
  | .set xs => .ok (.dict [(.str "type{set}", .list xs)])
  | .other => .error (.user "TypeError")

attribute [local pyl] ejExt.eq_1 ejExt.eq_2 ejExt.eq_3 ejExt.eq_4 ejExt.eq_5 ejExt.eq_6 ejExt.eq_7 ejExt.eq_8 ejExt.eq_9 ejExt.eq_10 ejExt.eq_11
  ejExt.eq_12 ejExt.eq_13 ejExt.eq_14 ejExt.eq_15 ejExt.eq_16 ejExt.eq_17 ejExt.eq_18 ejExt.eq_19 ejExt.eq_20 ejExt.eq_21 ejExt.eq_22
  ejExt.eq_23 ejExt.eq_24 ejExt.eq_25 ejExt.eq_26 ejExt.eq_27 ejExt.eq_28 ejExt.eq_29 ejExt.eq_30 ejExt.eq_31 ejExt.eq_32
  EObj.pv EObj.expected TF DTF DF

theorem ejExt_Decimal (o : EObj) (v : PV) :
    ejExt o "isinstance:Decimal" [v] = .ok (.bool (match o with | .dec _ => true | _ => false)) := by
  rcases o with _ | _ | _ | _ | ⟨_, _ | _⟩ | _ | _ <;> simp [pyl]
theorem ejExt_time (o : EObj) (v : PV) :
    ejExt o "isinstance:time" [v] = .ok (.bool (match o with | .time _ => true | _ => false)) := by
  rcases o with _ | _ | _ | _ | ⟨_, _ | _⟩ | _ | _ <;> simp [pyl]
theorem ejExt_datetime (o : EObj) (v : PV) :
    ejExt o "isinstance:datetime" [v] = .ok (.bool (match o with | .dtime _ _ => true | _ => false)) := by
  rcases o with _ | _ | _ | _ | ⟨_, _ | _⟩ | _ | _ <;> simp [pyl]
theorem ejExt_date (o : EObj) (v : PV) :
    ejExt o "isinstance:date" [v] = .ok (.bool (match o with | .dtime _ _ => true | .date _ => true | _ => false)) := by
  rcases o with _ | _ | _ | _ | ⟨_, _ | _⟩ | _ | _ <;> simp [pyl]
theorem ejExt_Duration (o : EObj) (v : PV) :
    ejExt o "isinstance:Duration" [v] = .ok (.bool (match o with | .dur _ false => true | _ => false)) := by
  rcases o with _ | _ | _ | _ | ⟨_, _ | _⟩ | _ | _ <;> simp [pyl]
theorem ejExt_timedelta (o : EObj) (v : PV) :
    ejExt o "isinstance:timedelta" [v] = .ok (.bool (match o with | .dur _ true => true | _ => false)) := by
  rcases o with _ | _ | _ | _ | ⟨_, _ | _⟩ | _ | _ <;> simp [pyl]
theorem ejExt_set (o : EObj) (v : PV) :
    ejExt o "isinstance:set" [v] = .ok (.bool (match o with | .set _ => true | _ => false)) := by
  rcases o with _ | _ | _ | _ | ⟨_, _ | _⟩ | _ | _ <;> simp [pyl]

theorem evalE_ext1 {ext : Ext} {env : Env} {f x : String} {v : PV} (h : Env.get env x = .ok v) :
    evalE ext env (.call (.ext f) (.cons (.var x) .nil)) = ext f [v] := by
  simp [evalE, evalArgs, applyFn, h, bind, Except.bind]

theorem evalE_or_bool {ext : Ext} {env : Env} {a b : E} {x y : Bool} (ha : evalE ext env a = .ok (.bool x)) (hb : evalE ext env b = .ok (.bool y)) :
    evalE ext env (.or a b) = .ok (.bool (x || y)) := by
  cases x <;> simp [evalE, ha, hb, bind, Except.bind, PV.truthy]

theorem Tie_ejson_default (o : EObj) (self : PV) :
    callFn (ejExt o) Live.Py.ejson_default [self, o.pv, TF, DTF, DF] = o.expected := by
  have hobj : Env.get [("DATE_F_FORMAT", DF), ("DATETIME_F_FORMAT", DTF), ("TIME_F_FORMAT", TF), ("obj", o.pv), ("self", self)] "obj"
      = .ok o.pv := by simp [get_cons]
  have T := fun name => evalE_ext1 (ext := ejExt o) (f := name) hobj
  unfold callFn Live.Py.ejson_default
  simp only [bindParams, Env.set, bind, Except.bind]
  -- the six tests of the chain, each evaluated once for every kind of object; only then the kinds are told apart
  rw [exec, exec_ite ((T _).trans (ejExt_Decimal ..)), exec_ite ((T _).trans (ejExt_time ..)), exec_ite ((T _).trans (ejExt_datetime ..)),
    exec_ite ((T _).trans (ejExt_date ..)), exec_ite (evalE_or_bool ((T _).trans (ejExt_Duration ..)) ((T _).trans (ejExt_timedelta ..))),
    exec_ite ((T _).trans (ejExt_set ..))]
  cases o with
  | dtime t tz => rcases tz with _ | ⟨off, nm⟩ <;> simp [pyl]
  | dur iso td => cases td <;> simp [pyl]
  | _ => simp [pyl]

open Df.Ejson in
/-- a leaf value of the model as an encoder object (the texts are the model's fixed-width formats) -/
def eobjOf : Ejson.V → Option EObj
  | .dec t => some (.dec t)
  | .time h mi s => some (.time (Ejson.fmtTime h mi s))
  | .dtime y m d h mi s tz => some (.dtime (Ejson.fmtDate y m d ++ "T" ++ Ejson.fmtTime h mi s) tz)
  | .date y m d => some (.date (Ejson.fmtDate y m d))
  | .dur iso => some (.dur iso true)
  | _ => Option.none

def topKeyPV : Except Err PV → Option String
  | .ok (.dict [(.str k, _)]) => some k
  | _ => Option.none
def topKeyJ : Ejson.J → Option String
  | .obj [(k, _)] => some k
  | _ => Option.none

/-- for every tagged leaf of the model, the code writes it under the tag `enc` uses -/
theorem Tie_ejson_tag_matches_model (v : Ejson.V) (o : EObj) (h : eobjOf v = some o) (self : PV) :
    topKeyPV (callFn (ejExt o) Live.Py.ejson_default [self, o.pv, TF, DTF, DF]) = topKeyJ (Ejson.enc v) := by
  rw [Tie_ejson_default]
  cases v <;> simp [eobjOf] at h <;> subst h <;> simp [EObj.expected, topKeyPV, topKeyJ, Ejson.enc]
  case dtime y m d hh mi s tz => cases tz <;> simp

/-! ## the decoder's hook `CommonJSONDecoder.object_hook` on objects with one member

The hook is re-translated too (`Live.Py.ejson_hook`).  The leaf parsers are externals defined from the *model's* parsers (`Ejson.parseTime`, `parseDate`,
`parseDateTime`, `Leaf.decOk`, `Leaf.durOk` — the model's assumptions about `strptime`, `Decimal`, `parse_duration`), each to be
called with the format constant of its kind.  `Tie_hook_<kind>`: an object whose only member is the tag of that kind is decoded
to the value of that kind when the payload parses and is returned unchanged when it does not (`except …: pass`, then every
later `if` finds its key absent) — the clauses of `Ejson.hook` one by one; `Tie_hook_plain`: an object without tag keys is
returned as it is.  (Objects carrying several tags at once are outside the encoder's image; their fall-through order stays with
the `ejson` correspondence.) -/

open Df.Ejson in
def hkExt (L : Ejson.Leaf) : Ext := fun f args =>
  match f, args with
  | "decimal.Decimal", [.str t] => if L.decOk t then .ok (.tuple [.str "decimal", .str t]) else .error (.user "InvalidOperation")
  | "datetime.datetime.strptime", [.str s, fmt] =>
    if PV.same fmt TF then
      (match Ejson.parseTime s with
       | some (h, m, sec) => .ok (.tuple [.str "parsed", .none, .tuple [.str "time", .int h, .int m, .int sec]])
       | Option.none => .error (.user "ValueError"))
    else if PV.same fmt DTF then
      (match Ejson.parseDateTime s with
       | some ((y, mo, d), (h, m, sec)) =>
         .ok (.tuple [.str "parsed", .tuple [.str "date", .int y, .int mo, .int d], .tuple [.str "time", .int h, .int m, .int sec]])
       | Option.none => .error (.user "ValueError"))
    else if PV.same fmt DF then
      (match Ejson.parseDate s with
       | some (y, mo, d) => .ok (.tuple [.str "parsed", .tuple [.str "date", .int y, .int mo, .int d], .none])
       | Option.none => .error (.user "ValueError"))
    else .error (.missingExt "strptime with another format")
  | ".time", [.tuple [.str "parsed", _, t]] => .ok t
  | ".date", [.tuple [.str "parsed", d, _]] => .ok d
  | "datetime.timedelta", [.tuple [.str "seconds", .int o]] => .ok (.tuple [.str "timedelta", .int o])
  | "datetime.timezone", [.tuple [.str "timedelta", .int o], .str nm] => .ok (.tuple [.str "tz", .int o, .str nm])
  | "datetime.datetime.combine", [d, t, tz] => .ok (.tuple [.str "datetime", d, t, tz])
  | "isodate.parse_duration", [.str t] => if L.durOk t then .ok (.tuple [.str "duration", .str t]) else .error (.user "ValueError")
  | _, _ => .error (.missingExt f)

attribute [local pyl] hkExt.eq_1 hkExt.eq_2 hkExt.eq_3 hkExt.eq_4 hkExt.eq_5 hkExt.eq_6 hkExt.eq_7 hkExt.eq_8

def hookRun (L : Ejson.Leaf) (obj : PV) : Except Err PV :=
  callFn (hkExt L) Live.Py.ejson_hook [.none, obj, TF, DTF, DF]

def hookEnv (obj : PV) : Env := [("DATE_P_FORMAT", DF), ("DATETIME_P_FORMAT", DTF), ("TIME_P_FORMAT", TF), ("obj", obj), ("cls", .none)]

theorem hookEnv_obj (obj : PV) : Env.get (hookEnv obj) "obj" = .ok obj := by simp [hookEnv, get_cons]

theorem hookEnv_exc (obj e : PV) : Env.get ((hookEnv obj).set "$exc" e) "obj" = .ok obj := by simp [hookEnv, Env.set, get_cons]

theorem hookRun_eq (L : Ejson.Leaf) (obj : PV) :
    hookRun L obj = match exec (hkExt L) Live.Py.ejson_hook.body { env := hookEnv obj } with
      | .ok (.ret v, _) => .ok v
      | .ok _ => .ok .none
      | .error e => .error e := by
  unfold hookRun callFn
  simp only [Live.Py.ejson_hook, bindParams, Env.set, bind, Except.bind, hookEnv]
  cases exec (hkExt L) _ _ with
  | error e => rfl
  | ok r => obtain ⟨c, st⟩ := r; cases c <;> rfl

theorem exec_tagBlock {ext : Ext} {T x y exc : String} {body rest : S} {env : Env} {out : List PV} {kvs : List (PV × PV)}
    (hx : env.get x = .ok (.dict kvs)) :
    exec ext (.seq (.ite (.call .in_ (.cons (.const (.str T)) (.cons (.var x) .nil))) (.tryCatch body (.cons exc y .skip .nil)) .skip) rest) ⟨env, out⟩ =
      if (PV.lookup (.str T) kvs).isSome then
        match exec ext body ⟨env, out⟩ with
        | .error (.user tag) => if catches exc tag then exec ext rest ⟨env.set y (excObj tag), out⟩ else .error (.user tag)
        | .ok (.next, st') => exec ext rest st'
        | r => r
      else exec ext rest ⟨env, out⟩ := by
  have ht : evalE ext env (.call .in_ (.cons (.const (.str T)) (.cons (.var x) .nil))) = .ok (.bool (PV.lookup (.str T) kvs).isSome) := by
    simp [evalE, evalArgs, applyFn, builtinOp, opIn, containsPV, hx, bind, Except.bind, Except.map]
  rw [exec, exec_ite ht, truthy_bool]
  cases (PV.lookup (.str T) kvs).isSome
  · rfl
  · rw [if_pos rfl, if_pos rfl, exec]
    cases exec ext body ⟨env, out⟩ with
    | error e =>
      cases e <;> simp only [execH, exec, bind, Except.bind]
      case user tag => cases catches exc tag <;> rfl
    | ok r => obtain ⟨c, st'⟩ := r; cases c <;> rfl

/-- `hookRun` on an object with one member, up to the body of its own block: every `if tag in obj: try … except: pass` block is
read through `exec_tagBlock`; the lookups skip the blocks of the other tags, before its own and, for a payload that does not
parse, behind it. -/
macro "hook_eval" : tactic =>
  `(tactic| (rw [hookRun_eq, Live.Py.ejson_hook]
             simp only [exec_tagBlock (hookEnv_obj _), exec_tagBlock (hookEnv_exc _ _), PV.lookup_cons_str, PV.lookup_nil,
               String.reduceEq, ↓reduceIte, Option.isSome_some, Option.isSome_none, Bool.false_eq_true]))

theorem Tie_hook_decimal (L : Ejson.Leaf) (t : String) :
    hookRun L (.dict [(.str "type{decimal}", .str t)])
      = .ok (if L.decOk t then .tuple [.str "decimal", .str t] else .dict [(.str "type{decimal}", .str t)]) := by
  hook_eval
  cases h : L.decOk t <;> simp [pyl, hookEnv, h]

theorem Tie_hook_time (L : Ejson.Leaf) (s : String) :
    hookRun L (.dict [(.str "type{time}", .str s)])
      = .ok (match Ejson.parseTime s with
             | some (h, m, sec) => .tuple [.str "time", .int h, .int m, .int sec]
             | Option.none => .dict [(.str "type{time}", .str s)]) := by
  hook_eval
  cases hp : Ejson.parseTime s with
  | none => simp [pyl, hookEnv, hp]
  | some x => obtain ⟨h, m, sec⟩ := x; simp [pyl, hookEnv, hp]

theorem Tie_hook_date (L : Ejson.Leaf) (s : String) :
    hookRun L (.dict [(.str "type{date}", .str s)])
      = .ok (match Ejson.parseDate s with
             | some (y, mo, d) => .tuple [.str "date", .int y, .int mo, .int d]
             | Option.none => .dict [(.str "type{date}", .str s)]) := by
  hook_eval
  cases hp : Ejson.parseDate s with
  | none => simp [pyl, hookEnv, hp]
  | some x => obtain ⟨y, mo, d⟩ := x; simp [pyl, hookEnv, hp]

theorem Tie_hook_duration (L : Ejson.Leaf) (t : String) :
    hookRun L (.dict [(.str "type{duration}", .str t)])
      = .ok (if L.durOk t then .tuple [.str "duration", .str t] else .dict [(.str "type{duration}", .str t)]) := by
  hook_eval
  cases h : L.durOk t <;> simp [pyl, hookEnv, h]

/-- a naive datetime (`tzname` is None): the parsed value itself -/
theorem Tie_hook_datetime_naive (L : Ejson.Leaf) (s : String) :
    hookRun L (.dict [(.str "type{datetime}", .list [.str s, .none, .none])])
      = .ok (match Ejson.parseDateTime s with
             | some ((y, mo, d), (h, m, sec)) =>
               .tuple [.str "parsed", .tuple [.str "date", .int y, .int mo, .int d], .tuple [.str "time", .int h, .int m, .int sec]]
             | Option.none => .dict [(.str "type{datetime}", .list [.str s, .none, .none])]) := by
  hook_eval
  cases hp : Ejson.parseDateTime s with
  | none => simp [pyl, hookEnv, hp]
  | some x => obtain ⟨⟨y, mo, d⟩, ⟨h, m, sec⟩⟩ := x; simp [pyl, hookEnv, hp]

/-- a zone-aware datetime: date and time of the parsed text combined with `timezone(timedelta(seconds=offset), name)` -/
theorem Tie_hook_datetime_aware (L : Ejson.Leaf) (s nm : String) (o : Int) :
    hookRun L (.dict [(.str "type{datetime}", .list [.str s, .int o, .str nm])])
      = .ok (match Ejson.parseDateTime s with
             | some ((y, mo, d), (h, m, sec)) =>
               .tuple [.str "datetime", .tuple [.str "date", .int y, .int mo, .int d], .tuple [.str "time", .int h, .int m, .int sec],
                       .tuple [.str "tz", .int o, .str nm]]
             | Option.none => .dict [(.str "type{datetime}", .list [.str s, .int o, .str nm])]) := by
  hook_eval
  cases hp : Ejson.parseDateTime s with
  | none => simp [pyl, hookEnv, hp]
  | some x => obtain ⟨⟨y, mo, d⟩, ⟨h, m, sec⟩⟩ := x; simp [pyl, hookEnv, hp]

theorem Tie_hook_set (L : Ejson.Leaf) (xs : List PV) :
    hookRun L (.dict [(.str "type{set}", .list xs)]) = .ok (.set (dedupPV [] xs)) := by
  hook_eval
  simp [pyl, hookEnv]

theorem Tie_hook_plain (L : Ejson.Leaf) (kvs : List (PV × PV))
    (h : ∀ k ∈ Ejson.tagKeys, PV.lookup (.str k) kvs = Option.none) :
    hookRun L (.dict kvs) = .ok (.dict kvs) := by
  simp only [Ejson.tagKeys, List.forall_mem_cons] at h
  obtain ⟨h1, h2, h3, h4, h5, h6, _⟩ := h
  rw [hookRun_eq, Live.Py.ejson_hook]
  simp only [exec_tagBlock (hookEnv_obj _), h1, h2, h3, h4, h5, h6, Option.isSome_none, Bool.false_eq_true, ↓reduceIte]
  simp only [exec, evalE, hookEnv_obj, bind, Except.bind]

end Df.Tie
