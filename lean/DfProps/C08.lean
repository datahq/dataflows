import DfModel.Checkpoint
import DfProps.Assoc

/-!
# C08 — an interrupted checkpoint is never used

Also here, because they rest on the same `DfModel.Checkpoint` model: the framing, history and chain parts of C07
(`C07_stream_unstream`, `C07_history`, `C07_chain_*`); the codec part of C07 is `DfProps/C07.lean`.
-/

namespace Df.Ckpt

theorem get?_put (fs : FS) (p q : Path) (c : List String) : (fs.put p c).get? q = if p = q then some c else fs.get? q :=
  get_put_of_eqns (fun _ _ _ _ => rfl) (fun _ _ => rfl) (fun _ _ _ _ _ => rfl) fs p q c

/-- the file an effect creates, writes or closes; a rename acts on two names -/
def Eff.file : Eff → Option Path
  | .openTrunc p | .writeLine p _ | .close p => some p
  | .rename _ _ => none

theorem applyAll_other (q : Path) : ∀ (es : List Eff) (fs : FS), (∀ e ∈ es, ∃ p, e.file = some p ∧ p ≠ q) →
    (applyAll fs es).get? q = fs.get? q := by
  intro es
  induction es with
  | nil => intro _ _; rfl
  | cons e es ih =>
    intro fs h
    obtain ⟨p, hp, hne⟩ := h e List.mem_cons_self
    rw [applyAll, List.foldl_cons, ← applyAll, ih _ fun x hx => h x (List.mem_cons_of_mem _ hx)]
    cases e with
    | openTrunc _ => cases hp; exact (get?_put ..).trans (if_neg hne)
    | writeLine _ _ => cases hp; exact (get?_put ..).trans (if_neg hne)
    | close _ => rfl
    | rename _ _ => cases hp

theorem applyAll_append (fs : FS) (a b : List Eff) : applyAll fs (a ++ b) = applyAll (applyAll fs a) b :=
  List.foldl_append

theorem writes_accumulate (p : Path) : ∀ (ls : List String) (fs : FS) (c : List String), fs.get? p = some c →
    (applyAll fs (ls.map (Eff.writeLine p))).get? p = some (c ++ ls)
  | [], fs, c, h => by simpa [applyAll] using h
  | l :: rest, fs, c, h => by
    have := writes_accumulate p rest (applyEff fs (.writeLine p l)) (c ++ [l]) (by simp [applyEff, h, get?_put])
    simpa [applyAll, List.append_assoc] using this

/-- `stream`'s temporary file here, `shutil.copy` in `DumpFs` -/
def writeFile (p : Path) (ls : List String) : List Eff := [Eff.openTrunc p] ++ ls.map (Eff.writeLine p) ++ [Eff.close p]

theorem writeFile_get? (fs : FS) (p : Path) (ls : List String) : (applyAll fs (writeFile p ls)).get? p = some ls := by
  have h1 : (applyAll fs [Eff.openTrunc p]).get? p = some [] := by simp [applyAll, applyEff, get?_put]
  simpa [writeFile, applyAll_append, applyAll, applyEff] using writes_accumulate p ls _ [] h1

theorem writeFile_file (p : Path) (ls : List String) : ∀ e ∈ writeFile p ls, e.file = some p := by
  intro e he
  simp only [writeFile, List.mem_append, List.mem_cons, List.mem_map, List.mem_nil_iff, or_false] at he
  rcases he with (rfl | ⟨l, _, rfl⟩) | rfl <;> rfl

theorem streamEffects_eq (final suffix desc : String) (rs : List (List String)) :
    streamEffects final suffix desc rs =
      writeFile (final ++ suffix) (streamLines desc rs) ++ [Eff.rename (final ++ suffix) final] := by
  simp [streamEffects, writeFile]

/-- **C08.** Whatever the number of resources and rows: after any *proper* prefix of the
checkpoint writer's effects — a kill at any write, flush, close or before the rename; or an
exception anywhere in its input, which cuts the log before the rename — no usable checkpoint
exists. -/
theorem C08_prefix_unusable (final suffix desc : String) (rs : List (List String)) (hs : suffix ≠ "")
    (fs0 : FS) (h0 : fs0.get? final = none) (E' : List Eff)
    (hpre : E' <+: streamEffects final suffix desc rs) (hproper : E' ≠ streamEffects final suffix desc rs) :
    usable (applyAll fs0 E') final = false := by
  rw [streamEffects_eq] at hpre hproper
  -- cut before the rename, the run has only touched the temporary file
  have h := (List.prefix_concat_iff.mp hpre).resolve_left hproper
  rw [usable, applyAll_other final E' fs0 fun e he =>
    ⟨_, writeFile_file _ _ e (h.subset he), mt String.append_eq_left_iff.mp hs⟩, h0]; rfl

/-- **A checkpoint that is picked up is complete**: after the whole effect list the final
name holds exactly the stream of the package — even when a stale temporary file of an
interrupted earlier run was lying around (it is truncated). -/
theorem C08_complete_when_usable (final suffix desc : String) (rs : List (List String)) (fs0 : FS) :
    (applyAll fs0 (streamEffects final suffix desc rs)).get? final = some (streamLines desc rs) := by
  rw [streamEffects_eq, applyAll_append]
  show (applyEff _ (Eff.rename _ _)).get? final = _
  simp only [applyEff, writeFile_get?, get?_put, if_true]

/-- **The next run recomputes and succeeds**: from the state any interruption left behind,
running the writer again ends with the complete checkpoint. -/
theorem C08_next_run_equal (final suffix desc : String) (rs : List (List String)) (fs0 : FS) (E' : List Eff) :
    (applyAll (applyAll fs0 E') (streamEffects final suffix desc rs)).get? final = some (streamLines desc rs) :=
  C08_complete_when_usable final suffix desc rs (applyAll fs0 E')

theorem readResource_block (rows rest : List String) (h : ∀ r ∈ rows, r ≠ "") :
    readResource (rows ++ "" :: rest) = (rows, rest) := by
  induction rows with
  | nil => simp [readResource]
  | cons r rs ih =>
    have hr := h r (by simp)
    simp [readResource, hr, ih (fun x hx => h x (by simp [hx]))]

theorem readResources_blocks : ∀ (rs : List (List String)), (∀ rows ∈ rs, ∀ r ∈ rows, r ≠ "") →
    readResources rs.length (rs.flatMap (fun rows => rows ++ [""])) = rs := by
  intro rs
  induction rs with
  | nil => intro _; rfl
  | cons rows rest ih =>
    intro h
    simp only [List.length_cons, readResources, List.flatMap_cons, List.append_assoc, List.singleton_append]
    rw [readResource_block rows _ (h rows (by simp))]
    simp [ih (fun x hx => h x (by simp [hx]))]

/-- **C07 (framing).** Reading back a written stream returns the descriptor and, for every
resource — empty ones included — exactly its rows in order. (Row lines are JSON objects, never
empty.) -/
theorem C07_stream_unstream (nres : String → Nat) (desc : String) (rs : List (List String))
    (hn : nres desc = rs.length) (hrows : ∀ rows ∈ rs, ∀ r ∈ rows, r ≠ "") :
    unstream nres (streamLines desc rs) = some (desc, rs) := by
  simp [unstream, streamLines, hn, readResources_blocks rs hrows]

/-- **C07 (histories).** For every history of runs and directory deletions starting without a
checkpoint or with one written by this pipeline: every run returns the pipeline's result, and
the steps before the checkpoint execute exactly when no checkpoint is present. -/
theorem C07_history {α} (eval : α) : ∀ (ops : List Op) (st : Option α), (st = none ∨ st = some eval) →
    ∀ o ∈ runHist eval st ops, o.result = eval := by
  intro ops
  induction ops with
  | nil => intro st _ o ho; cases ho
  | cons op rest ih =>
    intro st hst o ho
    simp only [runHist, List.mem_append] at ho
    cases op with
    | delete =>
      rcases ho with ho | ho
      · cases ho
      · exact ih none (Or.inl rfl) o ho
    | run =>
      have hs : stepHist eval st .run = (some eval, some ⟨eval, !st.isSome⟩) := by rcases hst with rfl | rfl <;> rfl
      rw [hs] at ho
      rcases ho with ho | ho
      · cases List.mem_singleton.mp ho; rfl
      · exact ih (some eval) (Or.inr rfl) o ho

theorem C07_second_run_skips_upstream {α} (eval : α) (rest : List Op) :
    runHist eval none (.run :: .run :: rest) =
      ⟨eval, true⟩ :: ⟨eval, false⟩ :: runHist eval (some eval) rest := rfl

theorem C07_delete_recomputes {α} (eval : α) (st : Option α) (rest : List Op) :
    runHist eval st (.delete :: .run :: rest) = ⟨eval, true⟩ :: runHist eval (some eval) rest := rfl

/-- what a run does with links none of whose checkpoints exists: steps executed, checkpoints written -/
def postActions : List CLink → List Action
  | [] => []
  | .step id :: rest => .exec id :: postActions rest
  | .cp n :: rest => .write n :: postActions rest

theorem plan_reverse_post (present : Nat → Bool) : ∀ (post : List CLink) (acc : List CLink),
    (∀ l ∈ post, ∀ n, l = .cp n → present n = false) →
    plan present (post.reverse ++ acc) = plan present acc ++ postActions post := by
  intro post
  induction post with
  | nil => intro acc _; simp [postActions]
  | cons l rest ih =>
    intro acc h
    simp only [List.reverse_cons, List.append_assoc, List.singleton_append]
    rw [ih (l :: acc) (fun x hx => h x (by simp [hx]))]
    cases l with
    | step id => simp [plan, postActions]
    | cp n =>
      have := h (.cp n) (by simp) n rfl
      simp [plan, this, postActions]

/-- Nothing before an existing checkpoint is executed, read or written: the plan of
`pre ++ [cp n] ++ post` with `n` present and no checkpoint of `post` present is
`read n` followed by everything in `post`. -/
theorem C07_chain_last_wins (present : Nat → Bool) (pre post : List CLink) (n : Nat) (hn : present n = true)
    (hpost : ∀ l ∈ post, ∀ m, l = .cp m → present m = false) :
    planChain present (pre ++ [.cp n] ++ post) = .read n :: postActions post := by
  simp only [planChain, List.reverse_append, List.reverse_cons, List.append_assoc, List.singleton_append]
  rw [plan_reverse_post present post _ hpost]
  simp [plan, hn]

/-- with no usable checkpoint at all, everything runs and every checkpoint is written -/
theorem C07_chain_first_run (present : Nat → Bool) (links : List CLink)
    (h : ∀ l ∈ links, ∀ m, l = .cp m → present m = false) :
    planChain present links = postActions links := by
  have := plan_reverse_post present links [] h
  simpa [planChain, plan] using this

example : planChain (fun n => n == 1) [.step 0, .cp 1, .step 2, .cp 3, .step 4] =
    [.read 1, .exec 2, .write 3, .exec 4] := by decide +kernel

example : usable (applyAll [] ((streamEffects "cp/stream.ndjson" ".active" "{}" [["{\"a\":1}"], []]).take 5))
    "cp/stream.ndjson" = false := by decide +kernel

end Df.Ckpt
