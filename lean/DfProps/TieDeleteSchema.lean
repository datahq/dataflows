import DfProps.TieRow

/-!
# Tie (C15): the schema half of `delete_fields` **as written in /repo now**

The loop over the schema fields of a selected resource (inside the package phase of `delete_fields`) is taken out by a
statement-level locator and re-translated on every run (`Live.Py.delete_schema_loop`): for each field, the patterns are tried
in order; the first that matches marks the field (and records the pattern), the loop over the patterns is left with `break`;
an unmarked field is appended to `new_fields`.  `Tie_delete_schema`: `new_fields` ends as the fields no pattern matches, in
schema order — `deleteFieldsRes`'s `newFields`, whose names the row half (`Tie_delete_process`) restricts the rows to: the
lockstep of `C15_delete_lockstep`, from the code on both sides.
-/

namespace Df.Tie
open Df Df.Py

def dsPatPV (p : String) : PV := .dict [(.str "pattern", .str p)]

def dsExt (O : ReOracle) : Ext := fun f args =>
  match f, args with
  | ".match", [.dict [(.str "pattern", .str p)], .str name] => .ok (if O.pmatch p name then .opaque "match" name else .none)
  | _, _ => .error (.missingExt f)

attribute [local pyl] dsExt.eq_1

def dsInner : S :=
  .ite (.call (.ext ".match") (.cons (.var "f") (.cons (.call .getitem (.cons (.var "sf") (.cons (.const (.str "name")) .nil))) .nil)))
    (.seq (.assign "skip" (.const (.bool true))) (.seq (.mut "matched" "add" (.cons (.call .attr (.cons (.var "f") (.cons (.const (.str "pattern")) .nil))) .nil)) .break_))
    .skip

def dsBody : S :=
  .seq (.assign "skip" (.const (.bool false))) (.seq (.forIn "f" (.var "field_res") dsInner)
    (.ite (.not (.var "skip")) (.mut "new_fields" "append" (.cons (.var "sf") .nil)) .skip))

theorem delete_schema_loop_is : Live.Py.delete_schema_loop =
  { params := [], body := .forIn "sf" (.var "schema_fields") dsBody, gen := true } := by rfl

/-- what the loops keep: the current field, the patterns, the list being built; `matched` is some set -/
def DsEnv (fld : Field) (pats : List String) (acc : List Field) (env : Env) : Prop :=
  env.lookup "sf" = some (dsFieldPV fld) ∧ env.lookup "field_res" = some (.list (pats.map dsPatPV)) ∧
  env.lookup "new_fields" = some (.list (acc.map dsFieldPV)) ∧ ∃ ms, env.lookup "matched" = some (.set ms)

theorem ds_inner_step (O : ReOracle) (fld : Field) (p : String) (st : St) (ms : List PV)
    (h1 : st.env.lookup "sf" = some (dsFieldPV fld)) (h4 : st.env.lookup "matched" = some (.set ms)) :
    exec (dsExt O) dsInner { st with env := ("f", dsPatPV p) :: st.env } =
      if O.pmatch p fld.name then
        .ok (.brk, { st with env := ("matched", .set (if PV.elem (.str p) ms then ms else ms ++ [.str p])) :: ("skip", .bool true) ::
          ("f", dsPatPV p) :: st.env })
      else .ok (.next, { st with env := ("f", dsPatPV p) :: st.env }) := by
  have hc : evalE (dsExt O) (("f", dsPatPV p) :: st.env)
      (.call (.ext ".match") (.cons (.var "f") (.cons (.call .getitem (.cons (.var "sf") (.cons (.const (.str "name")) .nil))) .nil)))
      = .ok (if O.pmatch p fld.name then .opaque "match" fld.name else .none) := by
    simp [pyl, dsPatPV, dsFieldPV, get_of_lookup h1]
  rw [dsInner, exec, hc]
  by_cases hm : O.pmatch p fld.name = true
  · simp [pyl, hm, dsPatPV, get_of_lookup h4]
  · simp [pyl, hm]

theorem ds_inner_loop (O : ReOracle) (fld : Field) (allPats : List String) (acc : List Field) : ∀ (pats : List String) (st : St),
    DsEnv fld allPats acc st.env → st.env.lookup "skip" = some (.bool false) →
    ∃ st', loopFor (exec (dsExt O) dsInner) (bind1 "f") (pats.map dsPatPV) st = .ok (.next, st') ∧ st'.out = st.out ∧
      DsEnv fld allPats acc st'.env ∧ st'.env.lookup "skip" = some (.bool (pats.any (fun p => O.pmatch p fld.name))) := by
  intro pats
  induction pats with
  | nil => intro st h hs; exact ⟨st, by simp [loopFor], rfl, h, by simpa using hs⟩
  | cons p rest ih =>
    intro st h hs
    obtain ⟨h1, h2, h3, ms, h4⟩ := h
    simp only [List.map_cons, loopFor, bind1, Env.set, bind, Except.bind, ds_inner_step O fld p st ms h1 h4]
    by_cases hm : O.pmatch p fld.name = true
    · simp only [hm, if_true]
      exact ⟨_, rfl, rfl, by simp [DsEnv, lookup_cons, h1, h2, h3], by simp [lookup_cons, hm]⟩
    · simp only [hm, List.any_cons, Bool.false_or]
      exact ih _ (by simp [DsEnv, lookup_cons, h1, h2, h3, h4]) (by simp [lookup_cons, hs])

def DsOut (pats : List String) (acc : List Field) (env : Env) : Prop :=
  env.lookup "field_res" = some (.list (pats.map dsPatPV)) ∧ env.lookup "new_fields" = some (.list (acc.map dsFieldPV)) ∧
  ∃ ms, env.lookup "matched" = some (.set ms)

def stays (O : ReOracle) (pats : List String) (f : Field) : Bool := !(pats.any (fun p => O.pmatch p f.name))

theorem ds_outer_step (O : ReOracle) (pats : List String) (acc : List Field) (fld : Field) (st : St) (h : DsOut pats acc st.env) :
    ∃ st', exec (dsExt O) dsBody { st with env := ("sf", dsFieldPV fld) :: st.env } = .ok (.next, st') ∧ st'.out = st.out ∧
      DsOut pats (if stays O pats fld then acc ++ [fld] else acc) st'.env := by
  obtain ⟨h2, h3, ms, h4⟩ := h
  obtain ⟨s1, g1, g2, ⟨k1, k2, k3, ms', k4⟩, g4⟩ := ds_inner_loop O fld pats acc pats
    { st with env := ("skip", .bool false) :: ("sf", dsFieldPV fld) :: st.env } (by simp [DsEnv, lookup_cons, h2, h3, h4]) (by simp)
  -- skip = False; the loop over the patterns leaves `skip` = "some pattern matches" (`ds_inner_loop`)
  rw [dsBody, exec_seq_assign (v := .bool false) (by simp [pyl]),
    exec_seq_next (st' := s1) (by
      rw [exec_forIn_var _ _ _ _ _ (pats.map dsPatPV) (by simp [Env.set, get_cons, get_of_lookup h2, Except.bind])]; exact g1),
    -- if not skip: new_fields.append(sf)
    exec_ite (v := .bool (stays O pats fld)) (by simp [pyl, get_of_lookup g4, stays])]
  cases stays O pats fld
  · exact ⟨s1, by simp [exec], g2, k2, k3, ms', k4⟩
  · exact ⟨{ s1 with env := ("new_fields", .list ((acc ++ [fld]).map dsFieldPV)) :: s1.env },
      by simp [pyl, get_of_lookup k1, get_of_lookup k3], g2, by simp [DsOut, lookup_cons, k2, k4]⟩

theorem ds_outer_loop (O : ReOracle) (pats : List String) : ∀ (fields acc : List Field) (st : St), DsOut pats acc st.env →
    ∃ st', loopFor (exec (dsExt O) dsBody) (bind1 "sf") (fields.map dsFieldPV) st = .ok (.next, st') ∧ st'.out = st.out ∧
      DsOut pats (acc ++ fields.filter (stays O pats)) st'.env := by
  intro fields
  induction fields with
  | nil => intro acc st h; exact ⟨st, by simp [loopFor], rfl, by simpa using h⟩
  | cons fld rest ih =>
    intro acc st h
    obtain ⟨s1, e1, e2, e3⟩ := ds_outer_step O pats acc fld st h
    obtain ⟨st', m1, m2, m3⟩ := ih _ s1 e3
    refine ⟨st', ?_, by rw [m2, e2], ?_⟩
    · simp only [List.map_cons, loopFor, bind1, Env.set, bind, Except.bind, e1]; exact m1
    · cases hs : stays O pats fld <;> simpa [List.filter_cons, hs, List.append_assoc] using m3

/-- the loop as written: `new_fields` ends as the schema fields no pattern matches, in schema order (`deleteFieldsRes`) -/
theorem Tie_delete_schema (O : ReOracle) (pats : List String) (fields : List Field) (ms : List PV) :
    ∃ st', exec (dsExt O) Live.Py.delete_schema_loop.body
        { env := [("new_fields", .list []), ("matched", .set ms), ("field_res", .list (pats.map dsPatPV)), ("schema_fields", .list (fields.map dsFieldPV))] }
        = .ok (.next, st') ∧
      st'.env.lookup "new_fields" = some (.list ((fields.filter (fun f => !(pats.any (fun p => O.pmatch p f.name)))).map dsFieldPV)) := by
  obtain ⟨st', h1, -, -, h3, -⟩ := ds_outer_loop O pats fields []
    { env := [("new_fields", .list []), ("matched", .set ms), ("field_res", .list (pats.map dsPatPV)), ("schema_fields", .list (fields.map dsFieldPV))] }
    (by simp [DsOut, lookup_cons])
  refine ⟨st', ?_, h3⟩
  rw [delete_schema_loop_is, exec_forIn_var _ _ _ _ _ (fields.map dsFieldPV) (by simp [get_cons, Except.bind])]
  exact h1

theorem delete_schema_is_model (O : ReOracle) (pats : List String) (r : Res) :
    (deleteFieldsRes O pats r).fields = r.fields.filter (fun f => !(pats.any (fun p => O.pmatch p f.name))) := by
  rfl

end Df.Tie
