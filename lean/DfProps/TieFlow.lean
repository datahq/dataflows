import DfProps.TieLoop
import DfModel.Link
import DfModel.Checkpoint
import DfProps.C01

/-!
# Tie (C01, C07): `Flow._chain`, `Flow._preprocess_chain` and `checkpoint` **as written in /repo now**

* `Tie_chain_dispatch`: the body of the loop of `Flow._chain` (the `if / elif … else` chain over one link), re-translated
  from base/flow.py on every run (`Live.Py.flow_chain_body`), takes exactly the branch `Link.classify` names — for *every*
  description of a link object (is a Flow / a DataStreamProcessor / a function / callable / iterable, the parameter names
  `inspect.signature` reports or its failure).  In particular (`Tie_chain_never_skips`) there is no link for which the body
  completes with `ds` unchanged: together with `C01_dispatch_total` the clause "a link the framework cannot interpret is
  rejected with an error, never silently skipped" speaks about the `if / elif` chain that is in the code now.
* `Tie_preprocess_chain`: the loop of `Flow._preprocess_chain` folds the links from left to right, a link that has
  `handle_flow_checkpoint` replaces everything collected so far by what that method returns.
* `Tie_checkpoint_handle`, `Tie_checkpoint_preprocess`: a checkpoint stands for *its own steps followed by the links in
  front of it* (computed from the arguments on every call: no state is carried from an earlier run), and when asked for its
  chain it decides by the existence of its file alone: `(unstream(file),)` if present, otherwise its chain followed by
  `stream(file)` and the notification.  `plan_of_fold` connects the three to `Ckpt.planChain` (the function
  `C07_history` / `C07_chain_last_wins` are about).
-/

namespace Df.Tie
open Df Df.Py Df.Link

def kwPos (p : PV) : PV := .tuple [.str "position", p]

/-- the outside world of `_chain`'s loop body for a link described by `o`: the type tests answer as `o` says, every way of
turning the link into a step returns a value tagged with the way it was made -/
def chainExt (o : LinkObj) (L D P : PV) : Ext := fun f args =>
  match f, args with
  | "isinstance:Flow", [_] => .ok (.bool o.isFlow)
  | "isinstance:DataStreamProcessor", [_] => .ok (.bool o.isProcessor)
  | "isfunction", [_] => .ok (.bool o.isFunction)
  | "callable", [_] => .ok (.bool o.isCallable)
  | "isinstance:Iterable", [_] => .ok (.bool o.isIterable)
  | "signature", [_] =>
    (match o.params with
     | some ps => .ok (.dict [(.str "parameters", .list (ps.map PV.str))])
     | Option.none => .error (.user "ValueError"))
  | "._chain", [l, d] => if PV.same l L && PV.same d D then .ok (.opaque "step" "nested") else .error (.missingExt f)
  | "link", [d, kw] => if PV.same d D && PV.same kw (kwPos P) then .ok (.opaque "step" "processor") else .error (.missingExt f)
  | "row_processor", [l] => if PV.same l L then .ok (.opaque "wrap" "row") else .error (.missingExt f)
  | "rows_processor", [l] => if PV.same l L then .ok (.opaque "wrap" "rows") else .error (.missingExt f)
  | "datapackage_processor", [l] => if PV.same l L then .ok (.opaque "wrap" "package") else .error (.missingExt f)
  | "iterable_loader", [l] => if PV.same l L then .ok (.opaque "wrap" "iterable") else .error (.missingExt f)
  | "$apply", [.opaque "wrap" k, d, kw] =>
    if PV.same d D && PV.same kw (kwPos P) then .ok (.opaque "step" k) else .error (.missingExt f)
  | _, _ => .error (.missingExt f)

def chainBodyRun (o : LinkObj) (L D P : PV) : Except Err PV := do
  let (_, st) ← exec (chainExt o L D P) Live.Py.flow_chain_body.body
    { env := [("link", L), ("ds", D), ("position", P)] }
  st.env.get "ds"

/-- what `classify` says, as the tagged step (none = the body raises) -/
def dispatchTag (D : PV) : Dispatch → Option PV
  | .nested => some (.opaque "step" "nested")
  | .processor => some (.opaque "step" "processor")
  | .row => some (.opaque "step" "row")
  | .rows => some (.opaque "step" "rows")
  | .package => some (.opaque "step" "package")
  | .iterable => some (.opaque "step" "iterable")
  | .rejected => Option.none
  | .skipped => some D

attribute [local pyl] chainExt.eq_1 chainExt.eq_2 chainExt.eq_3 chainExt.eq_4 chainExt.eq_5 chainExt.eq_6 chainExt.eq_7
  chainExt.eq_8 chainExt.eq_9 chainExt.eq_10 chainExt.eq_11 chainExt.eq_12 chainExt.eq_13 kwPos dispatchTag Except.toOption

theorem same_refl_opaque (t r : String) : PV.same (.opaque t r) (.opaque t r) = true := by simp [PV.same]

/-- The link and stream objects are opaque to the dispatch code. -/
theorem Tie_chain_dispatch (o : LinkObj) (lt lr dt dr : String) (p : Int) :
    (chainBodyRun o (.opaque lt lr) (.opaque dt dr) (.int p)).toOption = dispatchTag (.opaque dt dr) (classify o) := by
  obtain ⟨isFlow, isProcessor, isFunction, isCallable, isIterable, params⟩ := o
  unfold chainBodyRun Live.Py.flow_chain_body classify
  rw [exec_ite (v := .bool true) rfl]
  simp only [truthy_bool, ↓reduceIte]
  rw [exec_ite (v := .bool isFlow) (by simp [pyl])]
  cases isFlow
  case true => simp [pyl]
  simp only [truthy_bool, Bool.false_eq_true, ↓reduceIte]
  rw [exec_ite (v := .bool isProcessor) (by simp [pyl])]
  cases isProcessor
  case true => simp [pyl]
  simp only [truthy_bool, Bool.false_eq_true, ↓reduceIte]
  rw [exec_ite (v := .bool (isFunction || isCallable && !isIterable)) (by cases isFunction <;> cases isCallable <;> simp [pyl])]
  cases (isFunction || isCallable && !isIterable)
  case false =>
    simp only [truthy_bool, Bool.false_eq_true, ↓reduceIte]
    rw [exec_ite (v := .bool isIterable) (by simp [pyl])]
    cases isIterable <;> simp [pyl]
  simp only [truthy_bool, ↓reduceIte]
  cases params with
  | none => simp [pyl]
  | some ps =>
    rw [exec_seq_assign (v := .dict [(.str "parameters", .list (ps.map .str))]) (by simp [pyl]),
      exec_seq_assign (v := .list (ps.map .str)) (by simp [pyl])]
    rcases ps with _ | ⟨q, _ | ⟨q2, qs⟩⟩
    · simp [pyl]
    · rw [exec_ite (v := .bool true) (by simp [pyl]), exec_ite (v := .bool (q == "row")) (by simp [pyl])]
      by_cases h1 : q = "row"
      · subst h1; simp [pyl]
      rw [truthy_bool, truthy_bool, if_pos rfl, beq_eq_false_iff_ne.mpr h1, if_neg Bool.false_ne_true,
        exec_ite (v := .bool (q == "rows")) (by simp [pyl])]
      by_cases h2 : q = "rows"
      · subst h2; simp [pyl]
      rw [truthy_bool, beq_eq_false_iff_ne.mpr h2, if_neg Bool.false_ne_true,
        exec_ite (v := .bool (q == "package")) (by simp [pyl])]
      by_cases h3 : q = "package"
      · subst h3; simp [pyl]
      · simp [pyl]; simp [h1, h2, h3]
    · rw [exec_ite (v := .bool false) (by simp [pyl]; omega)]
      simp [pyl]

theorem Tie_chain_never_skips (o : LinkObj) (lt lr dt dr : String) (p : Int) :
    (chainBodyRun o (.opaque lt lr) (.opaque dt dr) (.int p)).toOption = Option.none ∨
    ∃ k, (chainBodyRun o (.opaque lt lr) (.opaque dt dr) (.int p)).toOption = some (.opaque "step" k) := by
  rw [Tie_chain_dispatch]
  have ht := Df.Link.C01_dispatch_total o
  cases h : classify o <;> simp_all [dispatchTag]

open Df.Ckpt

/-- a flow's links after `_preprocess_chain`: plain links, and checkpoints carrying the chain they stand for -/
inductive PLink where
  | step (id : Nat)
  | cp (name : Nat) (chain : List PLink)

/-- the fold of `Flow._preprocess_chain` with `checkpoint.handle_flow_checkpoint` (a checkpoint without steps of its own) -/
def foldLinks : List CLink → List PLink → List PLink
  | [], acc => acc
  | .step id :: rest, acc => foldLinks rest (acc ++ [.step id])
  | .cp n :: rest, acc => foldLinks rest [.cp n acc]

mutual
/-- what running a preprocessed link does, given which checkpoint files exist (`Tie_checkpoint_preprocess`: a checkpoint
reads its file if it is there, otherwise runs its chain and then writes) -/
def actions (present : Nat → Bool) : PLink → List Action
  | .step id => [.exec id]
  | .cp n chain => if present n then [.read n] else actionsL present chain ++ [.write n]
def actionsL (present : Nat → Bool) : List PLink → List Action
  | [] => []
  | l :: ls => actions present l ++ actionsL present ls
end

theorem actionsL_append (present : Nat → Bool) (a b : List PLink) :
    actionsL present (a ++ b) = actionsL present a ++ actionsL present b := by
  induction a with
  | nil => simp [actionsL]
  | cons x xs ih => simp [actionsL, ih, List.append_assoc]

/-! the objects: a plain link is opaque; a checkpoint is an object with a name and, once `handle_flow_checkpoint` has run, a chain -/

def clinkPV : CLink → PV
  | .step id => .opaque "link" (toString id)
  | .cp n => .dict [(.str "__checkpoint__", .int n)]

mutual
def plinkPV : PLink → PV
  | .step id => .opaque "link" (toString id)
  | .cp n chain => .dict [(.str "__checkpoint__", .int n), (.str "chain", .tuple (plinksPV chain))]
def plinksPV : List PLink → List PV
  | [] => []
  | l :: ls => plinkPV l :: plinksPV ls
end

theorem plinksPV_append (a b : List PLink) : plinksPV (a ++ b) = plinksPV a ++ plinksPV b := by
  induction a with
  | nil => simp [plinksPV]
  | cons x xs ih => simp [plinksPV, ih]

theorem foldLinks_eq (links : List CLink) (acc : List PLink) :
    foldLinks links acc = links.foldl (fun acc l => match l with | .step id => acc ++ [.step id] | .cp n => [.cp n acc]) acc := by
  induction links generalizing acc with
  | nil => rfl
  | cons l rest ih => cases l <;> simp [foldLinks, ih]

theorem foldLinks_append (a b : List CLink) (acc : List PLink) : foldLinks (a ++ b) acc = foldLinks b (foldLinks a acc) := by
  simp [foldLinks_eq, List.foldl_append]

theorem plan_of_fold (present : Nat → Bool) (links : List CLink) :
    actionsL present (foldLinks links []) = planChain present links := by
  -- `plan` reads the chain from its end: induction on the reversed chain
  suffices h : ∀ r : List CLink, actionsL present (foldLinks r.reverse []) = plan present r by
    simpa [planChain] using h links.reverse
  intro r
  induction r with
  | nil => rfl
  | cons l r ih =>
    rw [List.reverse_cons, foldLinks_append]
    cases l <;> simp [foldLinks, actionsL_append, actionsL, actions, plan, ih]

def isCheckpointPV : PV → Bool
  | .dict ((.str "__checkpoint__", _) :: _) => true
  | _ => false

/-- the outside world of `_preprocess_chain`: `hasattr` recognises checkpoints; calling a checkpoint's
`handle_flow_checkpoint` runs the translated method (own steps: none) and returns what it returns, the object carrying
the `chain` attribute the method assigned -/
def ppExt : Ext := fun f args =>
  match f, args with
  | "hasattr", [l, .str "handle_flow_checkpoint"] => .ok (.bool (isCheckpointPV l))
  | ".handle_flow_checkpoint", [.dict kvs, acc] => do
    let env ← callFnEnv noExt Live.Py.checkpoint_handle [.dict kvs, acc, .tuple []]
    let chain ← env.get "self.chain"
    let me := PV.dict (kvs ++ [(.str "chain", chain)])
    let ret ← callFn noExt Live.Py.checkpoint_handle [me, acc, .tuple []]
    .ok ret
  | _, _ => .error (.missingExt f)

attribute [local pyl] ppExt.eq_1 ppExt.eq_2

theorem Tie_checkpoint_handle (ext : Ext) (me : PV) (steps parent : List PV) :
    callFnEnv ext Live.Py.checkpoint_handle [me, .list parent, .tuple steps] = .ok
      [("self.chain", .tuple (steps ++ parent)), ("self.steps", .tuple steps), ("parent_chain", .list parent), ("self", me)]
    ∧ callFn ext Live.Py.checkpoint_handle [me, .list parent, .tuple steps] = .ok (.list [me]) := by
  constructor <;> rfl

def ppBody : S :=
  (.ite (.call (.ext "hasattr") (.cons (.var "link") (.cons (.const (.str "handle_flow_checkpoint")) .nil)))
    (.assign "checkpoint_links" (.call (.ext ".handle_flow_checkpoint") (.cons (.var "link") (.cons (.var "checkpoint_links") .nil))))
    (.mut "checkpoint_links" "append" (.cons (.var "link") .nil)))

theorem flow_preprocess_is : Live.Py.flow_preprocess =
    { params := ["self", "self.chain"], gen := false, body := .seq (.assign "checkpoint_links" (.call .mkList .nil))
        (.seq (.forIn "link" (.var "self.chain") ppBody) (.ret (.var "checkpoint_links"))) } := rfl

theorem pp_loop (links : List CLink) (acc : List PLink) (st : St)
    (h : st.env.get "checkpoint_links" = .ok (.list (plinksPV acc))) :
    ∃ st', loopFor (exec ppExt ppBody) (bind1 "link") (links.map clinkPV) st = .ok (.next, st') ∧
      st'.env.get "checkpoint_links" = .ok (.list (plinksPV (foldLinks links acc))) := by
  rw [foldLinks_eq]
  refine loopFor_foldl clinkPV (fun _ acc st => st.env.get "checkpoint_links" = .ok (.list (plinksPV acc))) _ ?_ links acc st h
  intro l _ acc st h
  cases l with
  | step id =>
    refine ⟨.next, { st with env := ("checkpoint_links", .list (plinksPV (acc ++ [.step id]))) :: ("link", clinkPV (.step id)) :: st.env },
      ?_, .inl rfl, by simp [get_cons]⟩
    simp [pyl, bind1, ppBody, clinkPV, isCheckpointPV, h, plinksPV_append, plinksPV, plinkPV]
  | cp n =>
    refine ⟨.next, { st with env := ("checkpoint_links", .list (plinksPV [.cp n acc])) :: ("link", clinkPV (.cp n)) :: st.env },
      ?_, .inl rfl, by simp [get_cons]⟩
    simp [pyl, bind1, ppBody, Live.Py.checkpoint_handle, clinkPV, isCheckpointPV, h, plinksPV, plinkPV]

theorem Tie_preprocess_chain (links : List CLink) :
    callFn ppExt Live.Py.flow_preprocess [.none, .tuple (links.map clinkPV)] = .ok (.list (plinksPV (foldLinks links []))) := by
  obtain ⟨st', h1, h2⟩ := pp_loop links []
    { env := [("checkpoint_links", .list []), ("self.chain", .tuple (links.map clinkPV)), ("self", .none)] } (by simp [get_cons, plinksPV])
  rw [flow_preprocess_is]
  simp [pyl, h1, h2]

def cpExt (exists_ : Bool) : Ext := fun f args =>
  match f, args with
  | "os.path.exists", [_] => .ok (.bool exists_)
  | "print", _ => .ok .none
  | ".format", _ => .ok (.str "")
  | "unstream", [file] => .ok (.tuple [.str "unstream", file])
  | "stream", [file] => .ok (.tuple [.str "stream", file])
  | "_notify_checkpoint_saved", [name] => .ok (.tuple [.str "notify", name])
  | "itertools.chain", [a, b] => do
    let xs ← iterOf a
    let ys ← iterOf b
    .ok (.tuple (xs ++ ys))
  | _, _ => .error (.missingExt f)

attribute [local pyl] cpExt.eq_1 cpExt.eq_2 cpExt.eq_3 cpExt.eq_4 cpExt.eq_5 cpExt.eq_6 cpExt.eq_7

theorem Tie_checkpoint_preprocess (exists_ : Bool) (me file path name : PV) (chain : List PV) :
    callFn (cpExt exists_) Live.Py.checkpoint_preprocess [me, file, .tuple chain, path, name] = .ok (.tuple
      (if exists_ then [.tuple [.str "unstream", file]]
       else chain ++ [.tuple [.str "stream", file], .tuple [.str "notify", name]])) := by
  unfold Live.Py.checkpoint_preprocess
  cases exists_ <;> simp [pyl]

end Df.Tie
