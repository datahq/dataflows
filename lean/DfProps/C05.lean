import DfProps.C01

/-!
# C05 — observers are transparent and capture the complete stream at their position
-/

namespace Df.Engine

variable {α β γ ε : Type}

theorem observer_run (rec : α → ε) (done : List ε) (xs : List α) :
    run (observer rec done) xs = (xs, xs.map rec ++ done) := by
  show runFrom (observer rec done) () xs = _
  induction xs with
  | nil => rfl
  | cons a as ih =>
    show ([a] ++ (runFrom (observer rec done) () as).1, [rec a] ++ (runFrom (observer rec done) () as).2) = _
    rw [ih]; rfl

/-- **Transparent**: inserting an observer in front of any suffix leaves what the suffix
delivers unchanged. -/
theorem C05_transparent (rec : α → ε) (done : List ε) (suffix : Mealy α β ε) (xs : List α) :
    (run (comp (observer rec done) suffix) xs).1 = (run suffix xs).1 := by
  rw [C01_regroup, observer_run]

/-- and in front of it, the prefix is undisturbed as well -/
theorem C05_transparent_mid (pre : Mealy α β ε) (rec : β → ε) (done : List ε) (suffix : Mealy β γ ε)
    (xs : List α) :
    (run (comp pre (comp (observer rec done) suffix)) xs).1 = (run (comp pre suffix) xs).1 := by
  rw [C01_regroup, C01_regroup, C01_regroup, observer_run]

theorem stagedChain_append (a b : List (Mealy α α ε)) : ∀ (i : Nat) (xs : List α),
    stagedChain i (a ++ b) xs =
      ((stagedChain (i + a.length) b (stagedChain i a xs).1).1,
       (stagedChain i a xs).2 ++ (stagedChain (i + a.length) b (stagedChain i a xs).1).2) := by
  induction a with
  | nil => intro i xs; simp [stagedChain]
  | cons m ms ih =>
    intro i xs
    simp only [List.cons_append, stagedChain, ih, List.length_cons, List.append_assoc]
    have : i + 1 + ms.length = i + (ms.length + 1) := by omega
    rw [this]

/-- **Complete**: in the lazy run of `pre ++ [observer] ++ suffix`, whatever the suffix is
(deleting, merging, filtering, buffering steps included), the observer's own log is the
record of *every* event of the stream at its position — the staged output of the prefix —
followed by its end-of-stream effects. -/
theorem C05_complete (pre suffix : List (Mealy α α ε)) (rec : α → ε) (done : List ε) (xs : List α) :
    (run (lazyChain 0 (pre ++ observer rec done :: suffix)) xs).2.filter (fun e => e.1 == pre.length) =
      (((stagedChain 0 pre xs).1.map rec) ++ done).map (fun e => (pre.length, e)) := by
  rw [C01_lazy_eq_staged_effects, stagedChain_append]
  simp only [Nat.zero_add, stagedChain, List.filter_append, observer_run]
  rw [stagedChain_filter_nil pre 0 xs _ (Or.inr (Nat.le_of_eq (Nat.zero_add _))),
    stagedChain_filter_nil suffix (pre.length + 1) _ _ (Or.inl (Nat.lt_succ_self _))]
  simp only [List.nil_append, List.append_nil]
  exact List.filter_eq_self.mpr fun e he => by obtain ⟨x, _, rfl⟩ := List.mem_map.mp he; simp

/-- **Finalizer**: modelled as an observer that records each passing event and whose epilogue
is the callback: the callback occurs exactly once in its log and after every event. -/
theorem C05_finalizer_once_last (pre suffix : List (Mealy α α (Option α))) (xs : List α) :
    (run (lazyChain 0 (pre ++ observer some [none] :: suffix)) xs).2.filter (fun e => e.1 == pre.length) =
      ((stagedChain 0 pre xs).1.map (fun a => (pre.length, some a))) ++ [(pre.length, none)] := by
  rw [C05_complete]
  simp

/-- **Draining**: if no step of the suffix abandons an incoming resource, every resource at
the observer's position is pulled to exhaustion (the driver drains the final streams). -/
theorem C05_complete_demand (steps : List (Nat → Treat)) (h : ∀ t ∈ steps, ∀ r, t r ≠ .abandon) :
    ∀ r, fullySeen steps r = true := by
  induction steps with
  | nil => intro r; rfl
  | cons t rest ih =>
    intro r
    have ht := h t (by simp) r
    simp only [fullySeen]
    cases htr : t r with
    | drain => rfl
    | abandon => exact absurd htr ht
    | consume r' => exact ih (fun t' ht' => h t' (by simp [ht'])) r'

/-- one abandoning step is enough to lose rows upstream: the hypothesis is needed -/
theorem C05_abandon_loses : fullySeen [fun _ => Treat.consume 0, fun _ => Treat.abandon] 0 = false := rfl

/-! Treatment tables of the discarding built-ins, as the code is written:
`delete_resource` (deque over matched streams), `join` with `source_delete` (deque over the
indexer), `concatenate` (itertools.chain over the matched streams), `filter_rows` (generator). -/

def treatDeleteResource (sel : Nat → Bool) (r : Nat) : Treat := if sel r then .drain else .consume r
def treatJoinSource (src : Nat) (sourceDelete : Bool) (r : Nat) : Treat :=
  if r = src then (if sourceDelete then .drain else .consume r) else .consume r
def treatConcatenate (sel : Nat → Bool) (first : Nat) (r : Nat) : Treat := if sel r then .consume first else .consume r
def treatRowwise (r : Nat) : Treat := .consume r

theorem C05_draining_builtins (sel : Nat → Bool) (src first : Nat) (sd : Bool) (r : Nat) :
    treatDeleteResource sel r ≠ .abandon ∧ treatJoinSource src sd r ≠ .abandon ∧
    treatConcatenate sel first r ≠ .abandon ∧ treatRowwise r ≠ .abandon := by
  refine ⟨?_, ?_, ?_, ?_⟩
  · unfold treatDeleteResource; split <;> simp
  · unfold treatJoinSource; split <;> (try split) <;> simp
  · unfold treatConcatenate; split <;> simp
  · simp [treatRowwise]

/-- non-vacuity: an observer between a filter and a step that discards everything -/
example :
    (run (lazyChain 0 ([rowWise (fun n : Nat => if n % 2 = 0 then [n] else []) (fun _ => [])] ++
            observer id [99] :: [rowWise (fun _ => []) (fun _ => [])])) [1, 2, 3, 4]).2.filter (fun e => e.1 == 1)
      = [(1, 2), (1, 4), (1, 99)] := by decide

end Df.Engine
