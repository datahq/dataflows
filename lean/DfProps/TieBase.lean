import DfModel.PyLite
import DfModel.Matcher
import DfProps.TieAttr
import Generated.PyAst

/-!
Running a translated function on symbolic arguments.

The simp set `pyl` holds the evaluator's equations, with lookups in environments and dicts stated through `=` on names:
`"a" = "b"` is settled by `String.reduceEq` with a short proof, where `"a" == "b"` is evaluated by the kernel.  `simp [pyl]` runs a
piece of program whose tests are decided by the arguments; a test that stays undecided makes it evaluate both branches
symbolically, which is slow.  The statement forms (`exec_ite`, `exec_seq_assign`, `exec_guard`, …) are for that case: each
consumes one statement, given the value of its test or right-hand side.
-/

namespace Df.Tie
open Df Df.Py

theorem lookup_cons {β} (k a : String) (v : β) (e : List (String × β)) :
    List.lookup k ((a, v) :: e) = if k = a then some v else List.lookup k e := by
  by_cases h : k = a
  · simp [List.lookup, h]
  · have : (k == a) = false := by simpa using h
    simp [List.lookup, h, this]

theorem get_cons (k a : String) (v : PV) (e : Env) :
    Env.get ((a, v) :: e) k = if k = a then .ok v else Env.get e k := by
  unfold Env.get; rw [lookup_cons]; by_cases h : k = a <;> simp [h]

theorem get_of_lookup {e : Env} {k : String} {v : PV} (h : e.lookup k = some v) : Env.get e k = .ok v := by
  simp [Env.get, h]

end Df.Tie

namespace Df.Py

@[pyl] theorem PV.beq_str (a b : String) : PV.beq (.str a) (.str b) = decide (a = b) := by
  rw [PV.beq]; rfl

@[pyl] theorem PV.same_str (a b : String) : PV.same (.str a) (.str b) = decide (a = b) := by
  rw [PV.same]; rfl

@[pyl] theorem PV.lookup_nil (k : PV) : PV.lookup k [] = Option.none := rfl

@[pyl] theorem PV.lookup_cons_str (k k' : String) (v : PV) (rest : List (PV × PV)) :
    PV.lookup (.str k) ((.str k', v) :: rest) = if k' = k then some v else PV.lookup (.str k) rest := by
  rw [PV.lookup, PV.beq_str]; by_cases h : k' = k <;> simp [h]

@[pyl] theorem pyIndexPV_zero (x : PV) (xs : List PV) : pyIndexPV (x :: xs) 0 = .ok x := rfl
@[pyl] theorem pyIndexPV_one (x y : PV) (xs : List PV) : pyIndexPV (x :: y :: xs) 1 = .ok y := rfl

theorem pyIndexPV_nat (xs : List PV) (i : Nat) (h : i < xs.length) : pyIndexPV xs (i : Int) = .ok xs[i] := by
  simp [pyIndexPV, List.getElem?_eq_getElem h]

end Df.Py

namespace Df.Tie
open Df Df.Py

/- Not in the set, because some proofs rewrite them with a lemma or carry a hypothesis about them: `pyIndexPV` (on a symbolic index
its body is a nest of `if`s; `pyIndexPV_map`, `pyIndexPV_nat` below), `opDict` (`opDict_emb` in `TieRow`), `PV.lt` (`max_some`,
`min_some` in `TieJoin`; a proof that compares integers adds it by hand), `iterLazy` (`iterLazy_pkg` below; `limiter_eval` in
`TieLoad` runs over a symbolic iterable).  Nor are the loop functions (`loopFor`, `compLoop`: the loop rules of `TieLoop` and the
comprehension lemmas of `TieRow` speak for them) and what a single module needs (`PV.elem`, `sortBy`, `cbump`, `pyStrip`, …: added by
hand where used).  `simp [pyl, -f]` does not take `f` out of the set.  A lemma about `callFn` of another translated function is passed
as `↓h`: it has to apply before `callFn` unfolds.

The outside world of a tie module (`ejExt`, `chainExt`, …: one `match` on the external's name) enters the set locally, arm by
arm (`attribute [local pyl] ejExt.eq_1 …`) and without its catch-all arm: that arm's side conditions, one string disequality per
name, would be discharged again at every call. -/
attribute [pyl] lookup_cons get_cons List.lookup_nil bind Except.bind Except.map pure Except.pure callFn callFnEnv runFn bindParams
  exec execH catches evalE evalArgs applyFn builtinOp Env.set PV.truthy tyErr PV.beq PV.beqL PV.same PV.sameL
  opAdd opSub opMul opDiv opMod opEq opNe opLt opGt opIs opIsnot opIn opNotin opGetitem opAttr opMkTuple
  opMkList opMkSet opLen opInt opList opSorted opMax opMin opIsStr opIsInt opIsList opIsDict
  opIsCounter opCounter opUnion opGet opMostCommon opDeepcopy opReCompile opItems opKeys opTuple opSet opAny opAll
  opFlatten opLe opGe opNeg opMkDict opIsTuple opEnumerate opStrip opLower opCount mutate iterOf dedupPV sortedPV containsPV
  pairsOf PV.dset

variable {ext : Ext}

@[simp] theorem truthy_bool (x : Bool) : (PV.bool x).truthy = x := rfl

theorem exec_ite {c : E} {t f : S} {st : St} {v : PV} (h : evalE ext st.env c = .ok v) :
    exec ext (.ite c t f) st = if v.truthy then exec ext t st else exec ext f st := by
  simp [exec, h, bind, Except.bind]

theorem exec_seq_assign {x : String} {e : E} {b : S} {st : St} {v : PV} (h : evalE ext st.env e = .ok v) :
    exec ext (.seq (.assign x e) b) st = exec ext b { st with env := st.env.set x v } := by
  simp [exec, h, bind, Except.bind]

theorem exec_seq_next {ext : Ext} {a b : S} {st st' : St} (h : exec ext a st = .ok (.next, st')) :
    exec ext (.seq a b) st = exec ext b st' := by
  rw [exec, h]; rfl

theorem exec_seq_ite {c : E} {t f rest : S} {st : St} {v : PV} (h : evalE ext st.env c = .ok v) :
    exec ext (.seq (.ite c t f) rest) st = exec ext (.seq (if v.truthy then t else f) rest) st := by
  rw [exec, exec_ite h, exec]; cases v.truthy <;> rfl

theorem exec_seq_skip {b : S} {st : St} : exec ext (.seq .skip b) st = exec ext b st := by
  rw [exec, exec]; rfl

theorem exec_seq_assoc (a b c : S) : exec ext (.seq (.seq a b) c) = exec ext (.seq a (.seq b c)) := by
  funext st
  simp only [exec, bind, Except.bind]
  cases exec ext a st with
  | error e => rfl
  | ok r => obtain ⟨c1, st1⟩ := r; cases c1 <;> rfl

theorem exec_guard {c e : E} {rest : S} {st : St} {v : PV} (h : evalE ext st.env c = .ok v) :
    exec ext (.seq (.ite c (.ret e) .skip) rest) st = if v.truthy then exec ext (.ret e) st else exec ext rest st := by
  cases hv : v.truthy <;> simp only [exec, h, hv, bind, Except.bind]
  · rfl
  · cases evalE ext st.env e <;> rfl

theorem runFn_succ {table : List (String × Fn)} {f : String} {fn : Fn} (h : table.lookup f = some fn) (d : Nat) (vs : List PV) :
    runFn table ext (d + 1) f vs = callFn (fun g ws => runFn table ext d g ws) fn vs := by
  rw [runFn, h]

theorem iterLazy_pkg (rs : List PV) : iterLazy (.dict [(.str "__iter__", .list rs)]) = .ok (rs, Option.none) := by
  simp [iterLazy, iterOf, pyl]

theorem pyIndexPV_map {α} (f : α → PV) (xs : List α) (i : Int) :
    pyIndexPV (xs.map f) i = match pyIndex xs i with
      | some x => .ok (f x)
      | none => .error (.keyError "index out of range") := by
  unfold pyIndexPV pyIndex
  by_cases h0 : 0 ≤ i
  · simp only [h0, if_true, List.getElem?_map]
    cases xs[i.toNat]? <;> simp
  · simp only [h0, if_false, List.length_map]
    by_cases h1 : (-i).toNat ≤ xs.length
    · simp only [h1, if_true, List.getElem?_map]
      cases xs[xs.length - (-i).toNat]? <;> simp
    · simp [h1]

theorem elem_map {α} [DecidableEq α] (g : α → PV) (x : α) (xs : List α) (h : ∀ y ∈ xs, PV.beq (g y) (g x) = decide (y = x)) :
    PV.elem (g x) (xs.map g) = xs.contains x := by
  induction xs with
  | nil => rfl
  | cons y ys ih =>
    rw [List.map_cons, PV.elem, h y (by simp), ih fun z hz => h z (by simp [hz]), List.contains_cons]
    by_cases e : y = x
    · simp [e]
    · simp [e, Ne.symm e]

theorem elem_str (x : String) (l : List String) : PV.elem (.str x) (l.map PV.str) = l.contains x :=
  elem_map PV.str x l fun y _ => PV.beq_str y x

end Df.Tie
