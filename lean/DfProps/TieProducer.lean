import DfModel.Parallelize
import DfProps.TieQueue

/-!
# Tie (C18): the producer loop of `parallelize` **as written in /repo now** = the model's `prod` steps

    for row in res:
        if predicate(row):
            q_in.put(row)
        else:
            q_internal.put(row)

The loop is re-translated from processors/parallelize.py on every run (`Live.Py.par_producer_loop`; locator `@try:k`, the queues
as values as in `TieFetcher`).  `Tie_producer_loop`: when the loop has run, every row for which the predicate holds has been put
on the workers' queue and every other row on the internal queue, each exactly once and in input order — nothing else is put.
`producer_is_prod_steps`: that is the effect of the model's `prod` step taken once per input row (`qRows`, `qInt`), the steps
`C18_*` quantify over (in the model they interleave with the other actors; the effect on the two queues is the same appends).
-/

namespace Df.Tie.Producer
open Df Df.Py

def pBody : S :=
  .ite (.call (.ext "predicate") (.cons (.var "row") .nil))
    (.assign "q_in" (.call (.ext ".put!") (.cons (.var "q_in") (.cons (.var "row") .nil))))
    (.assign "q_internal" (.call (.ext ".put!") (.cons (.var "q_internal") (.cons (.var "row") .nil))))

theorem par_producer_loop_is : Live.Py.par_producer_loop =
    { params := ["res", "q_in", "q_internal"], body := .forIn "row" (.var "res") pBody, gen := true } := by rfl

/-- the predicate as a function of the row, the queues as values -/
def PExt (ext : Ext) (p : PV → Bool) : Prop :=
  (∀ r, ext "predicate" [r] = .ok (.bool (p r))) ∧ ∀ xs v, ext ".put!" [.list xs, v] = .ok (.list (xs ++ [v]))

theorem pBody_step {ext : Ext} {p : PV → Bool} (h : PExt ext p) (r : PV) {qin qint : List PV} {env : Env} (out : List PV)
    (h1 : env.get "q_in" = .ok (.list qin)) (h2 : env.get "q_internal" = .ok (.list qint)) :
    exec ext pBody ⟨("row", r) :: env, out⟩ = .ok (.next,
      ⟨(if p r then ("q_in", .list (qin ++ [r])) else ("q_internal", .list (qint ++ [r]))) :: ("row", r) :: env, out⟩) := by
  have hrow : evalE ext (("row", r) :: env) (.var "row") = .ok r := by simp [evalE, get_cons]
  have h1' : Env.get (("row", r) :: env) "q_in" = .ok (.list qin) := by simpa [get_cons] using h1
  have h2' : Env.get (("row", r) :: env) "q_internal" = .ok (.list qint) := by simpa [get_cons] using h2
  rw [pBody, exec]
  simp only [evalE, evalArgs, applyFn, get_cons, if_true, h.1, PV.truthy, bind, Except.bind]
  cases p r
  · exact exec_put h.2 h2' hrow
  · exact exec_put h.2 h1' hrow

theorem p_loop (ext : Ext) (p : PV → Bool) (h : PExt ext p) : ∀ (rows qin qint : List PV) (env : Env) (out : List PV),
    env.lookup "q_in" = some (.list qin) → env.lookup "q_internal" = some (.list qint) →
    ∃ env', loopFor (exec ext pBody) (bind1 "row") rows ⟨env, out⟩ = .ok (.next, ⟨env', out⟩)
      ∧ env'.lookup "q_in" = some (.list (qin ++ rows.filter p))
      ∧ env'.lookup "q_internal" = some (.list (qint ++ rows.filter (fun r => !p r))) := by
  intro rows
  induction rows with
  | nil => intro qin qint env out h1 h2; exact ⟨env, rfl, by simpa using h1, by simpa using h2⟩
  | cons r rest ih =>
    intro qin qint env out h1 h2
    simp only [loopFor, bind1, Env.set, bind, Except.bind, pBody_step h r out (get_of_lookup h1) (get_of_lookup h2)]
    obtain ⟨env', g1, g2, g3⟩ := ih (if p r then qin ++ [r] else qin) (if p r then qint else qint ++ [r])
      ((if p r then ("q_in", .list (qin ++ [r])) else ("q_internal", .list (qint ++ [r]))) :: ("row", r) :: env) out
      (by cases p r <;> simp [lookup_cons, h1]) (by cases p r <;> simp [lookup_cons, h2])
    refine ⟨env', g1, ?_, ?_⟩
    · cases hr : p r <;> simpa [hr, List.filter_cons] using g2
    · cases hr : p r <;> simpa [hr, List.filter_cons] using g3

/-- every row goes to exactly one of the two queues, by the predicate, in input order -/
theorem Tie_producer_loop (ext : Ext) (p : PV → Bool) (h : PExt ext p) (rows qin qint : List PV) :
    ∃ env, callFnEnv ext Live.Py.par_producer_loop [.list rows, .list qin, .list qint] = .ok env
      ∧ env.lookup "q_in" = some (.list (qin ++ rows.filter p))
      ∧ env.lookup "q_internal" = some (.list (qint ++ rows.filter (fun r => !p r))) := by
  obtain ⟨env', g1, g2, g3⟩ := p_loop ext p h rows qin qint
    [("q_internal", .list qint), ("q_in", .list qin), ("res", .list rows)] [] (by simp [lookup_cons]) (by simp)
  refine ⟨env', ?_, g2, g3⟩
  rw [par_producer_loop_is]
  unfold callFnEnv
  simp only [bindParams, Env.set, exec, evalE, get_cons, String.reduceEq, if_true, if_false, bind, Except.bind, iterLazy_list, g1]

/-- the model's `prod` step taken while rows remain: once per row -/
def prodAll (p : Df.Par.Row → Bool) (f : Df.Par.Row → Df.Par.Row) : Nat → Df.Par.St → Df.Par.St
  | 0, s => s
  | n + 1, s => match Df.Par.step p f s .prod with
    | some s' => prodAll p f n s'
    | none => s

theorem prodAll_queues (p : Df.Par.Row → Bool) (f : Df.Par.Row → Df.Par.Row) : ∀ (rows : List Df.Par.Row) (s : Df.Par.St),
    s.input = rows →
    (prodAll p f rows.length s).qRows = s.qRows ++ rows.filter p ∧
    (prodAll p f rows.length s).qInt = s.qInt ++ (rows.filter (fun r => !p r)).map some ∧
    (prodAll p f rows.length s).input = [] := by
  intro rows
  induction rows with
  | nil => intro s hs; simp [prodAll, hs]
  | cons r rest ih =>
    intro s hs
    by_cases hr : p r = true
    · have hstep : Df.Par.step p f s .prod = some { s with input := rest, qRows := s.qRows ++ [r] } := by
        simp [Df.Par.step, hs, hr]
      obtain ⟨a, b, c⟩ := ih { s with input := rest, qRows := s.qRows ++ [r] } rfl
      simp only [List.length_cons, prodAll, hstep]
      exact ⟨by simpa [hr, List.append_assoc] using a, by simpa [hr] using b, c⟩
    · have hr' : p r = false := by simpa using hr
      have hstep : Df.Par.step p f s .prod = some { s with input := rest, qInt := s.qInt ++ [some r] } := by
        simp [Df.Par.step, hs, hr']
      obtain ⟨a, b, c⟩ := ih { s with input := rest, qInt := s.qInt ++ [some r] } rfl
      simp only [List.length_cons, prodAll, hstep]
      exact ⟨by simpa [hr'] using a, by simpa [hr', List.append_assoc] using b, c⟩

def rowPV (r : Df.Par.Row) : PV := .int (r : Int)
def itemPV : Option Df.Par.Row → PV
  | none => .none
  | some r => rowPV r

/-- **the loop of the code = one `prod` step of the model per row**: the same rows, in the same order, on the same two queues -/
theorem producer_is_prod_steps (ext : Ext) (p : Df.Par.Row → Bool) (f : Df.Par.Row → Df.Par.Row) (pv : PV → Bool)
    (hpv : ∀ r : Df.Par.Row, pv (rowPV r) = p r) (h : PExt ext pv) (s : Df.Par.St) :
    ∃ env, callFnEnv ext Live.Py.par_producer_loop
        [.list (s.input.map rowPV), .list (s.qRows.map rowPV), .list (s.qInt.map itemPV)] = .ok env
      ∧ env.lookup "q_in" = some (.list ((prodAll p f s.input.length s).qRows.map rowPV))
      ∧ env.lookup "q_internal" = some (.list ((prodAll p f s.input.length s).qInt.map itemPV)) := by
  obtain ⟨env, g1, g2, g3⟩ := Tie_producer_loop ext pv h (s.input.map rowPV) (s.qRows.map rowPV) (s.qInt.map itemPV)
  obtain ⟨a, b, _⟩ := prodAll_queues p f s.input s rfl
  refine ⟨env, g1, ?_, ?_⟩
  · rw [g2, a]
    simp [List.filter_map, Function.comp_def, hpv]
  · rw [g3, b]
    simp [List.filter_map, Function.comp_def, hpv, itemPV]

end Df.Tie.Producer
