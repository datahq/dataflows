import DfModel.DumpFormat
import DfProps.Util
import DfProps.C07
import Generated.Live

/-!
# C03 — a dumped data package loads back to the same typed data
-/

namespace Df.Fmt

theorem get?_of_keys (row : Row) : ∀ (h : String), h ∈ Row.keys row → ∃ v, Row.get? row h = some v := by
  intro h hh
  induction row with
  | nil => simp [Row.keys] at hh
  | cons kv rest ih =>
    obtain ⟨k, v⟩ := kv
    by_cases hk : k = h
    · exact ⟨v, by simp [Row.get?, hk]⟩
    · simp only [Row.keys, List.map_cons, List.mem_cons] at hh
      rcases hh with hh | hh
      · exact absurd hh.symm hk
      · obtain ⟨w, hw⟩ := ih hh
        exact ⟨w, by simp [Row.get?, hk, hw]⟩

theorem get?_head (k : String) (v : Val) (rest : Row) : Row.get? ((k, v) :: rest) k = some v := by
  simp [Row.get?]

theorem get?_tail (k k' : String) (v : Val) (rest : Row) (h : k' ≠ k) : Row.get? ((k', v) :: rest) k = Row.get? rest k := by
  simp [Row.get?, h]

theorem cellOf_some (c : Codec) (f : String) {v : Val} (hv : v ≠ .null) : cellOf c f (some v) = some (c.ser f v) := by
  cases v <;> first | rfl | exact absurd rfl hv

/-- **Record round trip** (CSV and JSON alike): a row that has every schema field among its keys,
in any order, written in schema order and read back by position gives the schema fields' cells in schema order
— provided every non-null value's text parses back to it (the per-type codecs). -/
theorem C03_record_roundtrip (c : Codec) : ∀ (fields : List String) (row : Row),
    (∀ h ∈ fields, ∃ v, Row.get? row h = some v) →
    (∀ h v, Row.get? row h = some v → v ≠ .null → c.parse h (c.ser h v) = some v) →
    readRecord c fields (writeRecord fields c row) = some (fields.map (fun h => (h, Row.getD row h))) := by
  intro fields row hall hcodec
  induction fields with
  | nil => rfl
  | cons f fs ih =>
    obtain ⟨v, hv⟩ := hall f (by simp)
    have ih' := ih (fun h hh => hall h (by simp [hh]))
    have hgd := Row.getD_of_get? hv
    simp only [writeRecord, List.map_cons] at ih' ⊢
    by_cases hvn : v = .null
    · subst hvn
      have hcell : cellOf c f (some Val.null) = none := rfl
      rw [hv, hcell]
      simp only [readRecord, ih', hgd]
    · rw [hv, cellOf_some c f hvn]
      simp only [readRecord, hcodec f v hv hvn, ih', hgd]

theorem lookupCell_write (c : Codec) (row : Row) (f : String) : ∀ (order : List String), f ∈ order →
    lookupCell f (writeJsonRow order c row) = cellOf c f (Row.get? row f) := by
  intro order
  induction order with
  | nil => intro h; simp at h
  | cons o os ih =>
    intro h
    by_cases ho : o = f
    · subst ho; simp [writeJsonRow, lookupCell]
    · simp only [List.mem_cons] at h
      rcases h with h | h
      · exact absurd h.symm ho
      · have := ih h
        simp only [writeJsonRow, List.map_cons, lookupCell, ho, if_false] at this ⊢
        exact this

/-- **JSON rows read by key** come back whatever order the writer emits the keys in (it sorts
them): every JSON consumer that looks fields up by name recovers the row. -/
theorem C03_json_keyed_roundtrip (c : Codec) (fields order : List String) (row : Row)
    (hsub : ∀ f ∈ fields, f ∈ order)
    (hall : ∀ h ∈ fields, ∃ v, Row.get? row h = some v)
    (hcodec : ∀ h v, Row.get? row h = some v → v ≠ .null → c.parse h (c.ser h v) = some v) :
    readJsonKeyed fields c (writeJsonRow order c row) = some (fields.map (fun h => (h, Row.getD row h))) := by
  have : fields.map (fun f => lookupCell f (writeJsonRow order c row)) = writeRecord fields c row := by
    simp only [writeRecord]
    apply List.map_congr_left
    intro f hf
    exact lookupCell_write c row f order (hsub f hf)
  simp only [readJsonKeyed, this]
  exact C03_record_roundtrip c fields row hall hcodec

/-- **Witness of the listed finding**: the same row read *positionally* (what tabulator and
tableschema do for keyed JSON: sorted keys against the schema fields by position) is paired
with the wrong fields as soon as the schema order is not alphabetical. -/
theorem C03_json_positional_witness :
    readJsonPositional ["z", "a"] ⟨fun _ v => match v with | .str s => s | _ => "?", fun _ t => some (.str t)⟩
      (writeJsonRow ["a", "z"] ⟨fun _ v => match v with | .str s => s | _ => "?", fun _ t => some (.str t)⟩
        [("z", .str "1"), ("a", .str "x")])
    = some [("z", .str "x"), ("a", .str "1")] := by decide +kernel

/-- …and positional reading is fine when the schema order is the sorted order -/
theorem C03_json_positional_sorted (c : Codec) (fields : List String) (row : Row)
    (hall : ∀ h ∈ fields, ∃ v, Row.get? row h = some v)
    (hcodec : ∀ h v, Row.get? row h = some v → v ≠ .null → c.parse h (c.ser h v) = some v) :
    readJsonPositional fields c (writeJsonRow fields c row) = some (fields.map (fun h => (h, Row.getD row h))) := by
  have : (writeJsonRow fields c row).map Prod.snd = writeRecord fields c row := by
    simp [writeJsonRow, writeRecord, List.map_map, Function.comp]
  simp only [readJsonPositional, this]
  exact C03_record_roundtrip c fields row hall hcodec

/-- **Null round trip**: null is written as the empty CSV cell / JSON null and read back as
null; no non-null value is written as the empty cell when its text is non-empty. -/
theorem C03_null_roundtrip (t : String) :
    csvCellOfText (csvCellText none) = none ∧ (t ≠ "" → csvCellOfText (csvCellText (some t)) = some t) := by
  constructor
  · rfl
  · intro h; simp [csvCellText, csvCellOfText, h]

/-- **Booleans**: the text the serialiser writes is in the value list stamped into the
descriptor, for the live serialiser and dialect. -/
theorem C03_bool_roundtrip (b : Bool) :
    parseBool Df.Live.csvTrueValues Df.Live.csvFalseValues (serBool Df.Live.csvTrueText Df.Live.csvFalseText b) = some b := by
  cases b <;> decide

/-- **Temporal values at second precision**: the stamped parse formats read back what the
serialise formats write (dates from year 0 to 9999, any time of day). -/
theorem C03_temporal_roundtrip (y m d h mi s : Nat) (hy : y < 10000) (hm : m < 100) (hd : d < 100)
    (hh : h < 100) (hmi : mi < 100) (hs : s < 100) :
    Df.Ejson.parseDate (Df.Ejson.fmtDate y m d) = some (y, m, d) ∧
    Df.Ejson.parseTime (Df.Ejson.fmtTime h mi s) = some (h, mi, s) ∧
    Df.Ejson.parseDateTime (Df.Ejson.fmtDate y m d ++ "T" ++ Df.Ejson.fmtTime h mi s) = some ((y, m, d), (h, mi, s)) :=
  ⟨Df.Ejson.parseDateChars_fmt y m d hy hm hd, Df.Ejson.parseTimeChars_fmt h mi s hh hmi hs,
   Df.Ejson.parseDateTime_fmt y m d h mi s hy hm hd hh hmi hs⟩

/-- **Years** are written with four digits and read back -/
theorem C03_year_roundtrip (y : Nat) (hy : y < 10000) : Df.Ejson.num4? (serYear y).toList = some y :=
  Df.Ejson.num4_pad4 y hy

/-- **Dialect table** (live, regenerated from the source on every run): every type with a
non-default CSV serialiser that needs a dialect has one stamped; null is the empty cell;
numbers use '.' and no group character; the serialise and parse formats of temporal types are
the documented pairs. -/
theorem C03_dialect_table :
    (∀ t ∈ ["date", "time", "datetime"], t ∈ Df.Live.csvSerializerTypes ∧ t ∈ Df.Live.csvDialectTypes ∧
        t ∈ Df.Live.jsonSerializerTypes ∧ t ∈ Df.Live.jsonDialectTypes) ∧
    "boolean" ∈ Df.Live.csvDialectTypes ∧ "number" ∈ Df.Live.csvDialectTypes ∧
    Df.Live.csvNull = some "" ∧ Df.Live.jsonNull = none ∧
    Df.Live.csvDecimalChar = some "." ∧ Df.Live.csvGroupChar = some "" ∧
    Df.Live.csvTrueValues = [Df.Live.csvTrueText] ∧ Df.Live.csvFalseValues = [Df.Live.csvFalseText] ∧
    Df.Live.datePformat = "%Y-%m-%d" ∧ Df.Live.timePformat = "%H:%M:%S" ∧ Df.Live.datetimePformat = "%Y-%m-%dT%H:%M:%S" ∧
    Df.Live.timeFformat = "%H:%M:%S" ∧
    (Df.Live.dateFformat = "%04Y-%m-%d" ∨ Df.Live.dateFformat = "%Y-%m-%d") ∧
    (Df.Live.datetimeFformat = "%04Y-%m-%dT%H:%M:%S" ∨ Df.Live.datetimeFformat = "%Y-%m-%dT%H:%M:%S") := by
  decide +kernel

example : readRecord ⟨fun _ v => match v with | .str s => s | _ => "?", fun _ t => some (.str t)⟩ ["b", "a"]
    (writeRecord ["b", "a"] ⟨fun _ v => match v with | .str s => s | _ => "?", fun _ t => some (.str t)⟩
      [("a", .str "5"), ("b", .null)]) = some [("b", .null), ("a", .str "5")] := by decide +kernel

end Df.Fmt
