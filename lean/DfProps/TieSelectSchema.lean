import DfProps.TieRow
import DfProps.C15

/-!
# Tie (C15): the schema half of `select_fields` **as written in /repo now** = `selectLoop`

The loops that pick the selected schema fields (inside the package phase of `select_fields`) are re-translated on every run
(`Live.Py.select_schema_loop`), here with `regex=True`: for each selection pattern in order — compiled as `'^' + pattern + '$'` — every *still available*
field name it matches is moved, in schema order, from the dictionary of available fields to `new_fields` (and recorded in the
configuration the row half reads).  `Tie_select_schema`: `new_fields` ends as the model's `selectLoop` — the order
`C15_select_order` is about; a field is selected by the first pattern that matches it and never twice.

`x.append(y.pop(k))` is translated as appending the member and then deleting the key, `d[k].add(v)` as `S.mutAt`.
Hypothesis: the schema's field names are distinct.
-/

namespace Df.Tie
open Df Df.Py

/-- the dictionary of available fields: name ↦ descriptor -/
def availPV (fs : List Field) : List (PV × PV) := fs.map (fun f => (PV.str f.name, dsFieldPV f))

def ssExt (O : ReOracle) : Ext := fun f args =>
  match f, args with
  | ".format", [.str "^{}$", .str p] => .ok (.str ("^" ++ p ++ "$"))
  | ".match", [.regex pat, .str name] => .ok (if O.pmatch pat name then .opaque "match" name else .none)
  | _, _ => .error (.missingExt f)

attribute [local pyl] ssExt.eq_1 ssExt.eq_2

def ssInner : S :=
  .ite (.call (.ext ".match") (.cons (.var "selected_field") (.cons (.var "name") .nil)))
    (.seq (.seq (.mut "new_fields" "append" (.cons (.call .getitem (.cons (.var "dp_fields") (.cons (.var "name") .nil))) .nil))
                (.mut "dp_fields" "delitem" (.cons (.var "name") .nil)))
          (.mutAt "configuration" (.call .getitem (.cons (.var "resource") (.cons (.const (.str "name")) .nil))) "add" (.cons (.var "name") .nil)))
    .skip

def ssBody : S :=
  .seq (.assign "selected_field" (.call .reCompile (.cons (.call (.ext ".format") (.cons (.const (.str "^{}$"))
      (.cons (.ifexp (.var "regex") (.var "selected_field") (.call (.ext "re.escape") (.cons (.var "selected_field") .nil))) .nil))) .nil)))
    (.forIn "name" (.call .list_ (.cons (.call .keys (.cons (.var "dp_fields") .nil)) .nil)) ssInner)

theorem select_schema_loop_is : Live.Py.select_schema_loop =
  { params := [], body := .forIn "selected_field" (.var "fields") ssBody, gen := true } := by rfl

theorem names_ne_of_nodup {f : Field} {kept t : List Field} (h : ((kept ++ f :: t).map Field.name).Nodup) :
    ∀ g ∈ kept ++ t, g.name ≠ f.name := by
  intro g hg e
  rw [List.map_append, List.map_cons, List.nodup_append, List.nodup_cons] at h
  rcases List.mem_append.mp hg with hg | hg
  · exact h.2.2 _ (List.mem_map_of_mem hg) _ (by simp) e
  · exact h.2.1.1 (e ▸ List.mem_map_of_mem hg)

theorem lookup_avail (f : Field) (kept t : List Field) (hnd : ((kept ++ f :: t).map Field.name).Nodup) :
    PV.lookup (.str f.name) (availPV (kept ++ f :: t)) = some (dsFieldPV f) := by
  have hne := names_ne_of_nodup hnd
  induction kept with
  | nil => simp [availPV, pyl]
  | cons g gs ih =>
    simp only [availPV, List.cons_append, List.map_cons, PV.lookup_cons_str, if_neg (hne g (by simp))]
    exact ih (List.nodup_cons.mp hnd).2 fun g hg => hne g (by simp [hg])

theorem filter_avail (f : Field) (kept t : List Field) (hnd : ((kept ++ f :: t).map Field.name).Nodup) :
    (availPV (kept ++ f :: t)).filter (fun kv => !PV.beq kv.1 (.str f.name)) = availPV (kept ++ t) := by
  have hne := names_ne_of_nodup hnd
  have hkeep : ∀ l : List Field, (∀ g ∈ l, g.name ≠ f.name) →
      (availPV l).filter (fun kv => !PV.beq kv.1 (.str f.name)) = availPV l := by
    intro l hl
    rw [List.filter_eq_self]
    intro kv hkv
    obtain ⟨g, hg, rfl⟩ := List.mem_map.mp hkv
    simpa [PV.beq_str] using hl g hg
  simp only [availPV, List.map_append, List.map_cons, List.filter_append, List.filter_cons, PV.beq_str, decide_true, Bool.not_true,
    Bool.false_eq_true, if_false] at hkeep ⊢
  rw [hkeep kept fun g hg => hne g (by simp [hg]), hkeep t fun g hg => hne g (by simp [hg])]

def SsEnv (pat resName : String) (avail acc : List Field) (env : Env) : Prop :=
  env.lookup "regex" = some (.bool true) ∧ env.lookup "selected_field" = some (.regex pat) ∧ env.lookup "dp_fields" = some (.dict (availPV avail)) ∧
  env.lookup "new_fields" = some (.list (acc.map dsFieldPV)) ∧ env.lookup "resource" = some (.dict [(.str "name", .str resName)]) ∧
  ∃ sel others, env.lookup "configuration" = some (.dict ((.str resName, .set sel) :: others))

theorem ss_inner_step (O : ReOracle) (pat resName : String) (f : Field) (kept t acc : List Field) (env : Env) (out : List PV)
    (hnd : ((kept ++ f :: t).map Field.name).Nodup) (h : SsEnv pat resName (kept ++ f :: t) acc env) :
    ∃ env', exec (ssExt O) ssInner ⟨("name", .str f.name) :: env, out⟩ = .ok (.next, ⟨env', out⟩) ∧
      if O.pmatch pat f.name then SsEnv pat resName (kept ++ t) (acc ++ [f]) env' else SsEnv pat resName (kept ++ f :: t) acc env' := by
  obtain ⟨hr, h1, h2, h3, h4, sel, others, h5⟩ := h
  have hc : evalE (ssExt O) (("name", .str f.name) :: env) (.call (.ext ".match") (.cons (.var "selected_field") (.cons (.var "name") .nil)))
      = .ok (if O.pmatch pat f.name then .opaque "match" f.name else .none) := by
    simp [pyl, get_of_lookup h1]
  rw [ssInner, exec, hc]
  by_cases hm : O.pmatch pat f.name = true
  · refine ⟨("configuration", .dict ((.str resName, .set (if PV.elem (.str f.name) sel then sel else sel ++ [.str f.name])) :: others))
        :: ("dp_fields", .dict (availPV (kept ++ t))) :: ("new_fields", .list ((acc ++ [f]).map dsFieldPV)) :: ("name", .str f.name) :: env, ?_, ?_⟩
    · simp [pyl, hm, get_of_lookup h2, get_of_lookup h3, get_of_lookup h4, get_of_lookup h5, lookup_avail f kept t hnd,
        filter_avail f kept t hnd]
    · simp [hm, SsEnv, lookup_cons, hr, h1, h4]
  · exact ⟨("name", .str f.name) :: env, by rw [if_neg hm]; rfl, by simp [hm, SsEnv, lookup_cons, hr, h1, h2, h3, h4, h5]⟩

theorem ss_inner_loop (O : ReOracle) (pat resName : String) (out : List PV) : ∀ (t kept acc : List Field) (env : Env),
    ((kept ++ t).map Field.name).Nodup → SsEnv pat resName (kept ++ t) acc env →
    ∃ env', loopFor (exec (ssExt O) ssInner) (bind1 "name") (t.map (fun f => PV.str f.name)) ⟨env, out⟩ = .ok (.next, ⟨env', out⟩) ∧
      SsEnv pat resName (kept ++ t.filter (fun f => !(O.pmatch pat f.name))) (acc ++ t.filter (fun f => O.pmatch pat f.name)) env' := by
  intro t
  induction t with
  | nil => intro kept acc env _ h; exact ⟨env, by simp [loopFor], by simpa using h⟩
  | cons f t' ih =>
    intro kept acc env hnd h
    obtain ⟨e1, he, h1⟩ := ss_inner_step O pat resName f kept t' acc env out hnd h
    simp only [List.map_cons, loopFor, bind1, Env.set, bind, Except.bind, he]
    by_cases hm : O.pmatch pat f.name = true
    · simp only [hm, if_true] at h1
      simpa [List.filter_cons, hm, List.append_assoc] using ih kept (acc ++ [f]) e1
        (hnd.sublist (((List.Sublist.refl kept).append (List.sublist_cons_self f t')).map _)) h1
    · simp only [hm] at h1
      simpa [List.filter_cons, hm, List.append_assoc] using ih (kept ++ [f]) acc e1 (by simpa [List.append_assoc] using hnd)
        (by simpa [List.append_assoc] using h1)

def SsOut (resName : String) (avail acc : List Field) (env : Env) : Prop :=
  env.lookup "regex" = some (.bool true) ∧ env.lookup "dp_fields" = some (.dict (availPV avail)) ∧
  env.lookup "new_fields" = some (.list (acc.map dsFieldPV)) ∧ env.lookup "resource" = some (.dict [(.str "name", .str resName)]) ∧
  ∃ sel others, env.lookup "configuration" = some (.dict ((.str resName, .set sel) :: others))

theorem ss_outer_loop (O : ReOracle) (resName : String) (out : List PV) : ∀ (ps : List String) (avail acc : List Field) (env : Env),
    (avail.map Field.name).Nodup → SsOut resName avail acc env →
    ∃ env', loopFor (exec (ssExt O) ssBody) (bind1 "selected_field") (ps.map PV.str) ⟨env, out⟩ = .ok (.next, ⟨env', out⟩) ∧
      env'.lookup "new_fields" = some (.list ((acc ++ selectLoop O (ps.map (anchored true)) avail).map dsFieldPV)) := by
  intro ps
  induction ps with
  | nil => intro avail acc env _ h; exact ⟨env, by simp [loopFor], by simpa [selectLoop] using h.2.2.1⟩
  | cons p rest ih =>
    intro avail acc env hnd h
    obtain ⟨h0, h2, h3, h4, sel, others, h5⟩ := h
    obtain ⟨e1, g1, hreg, -, k2, k3, k4, k5⟩ := ss_inner_loop O ("^" ++ p ++ "$") resName out avail [] acc
      (("selected_field", .regex ("^" ++ p ++ "$")) :: ("selected_field", .str p) :: env) (by simpa using hnd)
      (by simp [SsEnv, lookup_cons, h0, h2, h3, h4, h5])
    simp only [List.nil_append] at k2
    have hstep : exec (ssExt O) ssBody ⟨("selected_field", .str p) :: env, out⟩ = .ok (.next, ⟨e1, out⟩) := by
      simpa [pyl, ssBody, get_of_lookup h0, get_of_lookup h2, availPV, Function.comp_def, iterLazy_list] using g1
    obtain ⟨e2, m1, m3⟩ := ih _ (acc ++ avail.filter (fun f => O.pmatch ("^" ++ p ++ "$") f.name)) e1
      ((List.filter_sublist.map _).nodup hnd) ⟨hreg, k2, k3, k4, k5⟩
    refine ⟨e2, ?_, ?_⟩
    · simp only [List.map_cons, loopFor, bind1, Env.set, bind, Except.bind, hstep]; exact m1
    · simpa [selectLoop, anchored, List.append_assoc] using m3

/-- the loops as written: `new_fields` ends as the model's `selectLoop` over the anchored patterns -/
theorem Tie_select_schema (O : ReOracle) (resName : String) (ps : List String) (fields : List Field) (others : List (PV × PV))
    (hnd : (fields.map Field.name).Nodup) :
    ∃ st', exec (ssExt O) Live.Py.select_schema_loop.body
        { env := [("new_fields", .list []), ("dp_fields", .dict (availPV fields)), ("configuration", .dict ((.str resName, .set []) :: others)),
                  ("resource", .dict [(.str "name", .str resName)]), ("regex", .bool true), ("fields", .list (ps.map PV.str))] }
        = .ok (.next, st') ∧
      st'.env.lookup "new_fields" = some (.list ((selectLoop O (ps.map (anchored true)) fields).map dsFieldPV)) := by
  obtain ⟨env', h1, h3⟩ := ss_outer_loop O resName [] ps fields []
    [("new_fields", .list []), ("dp_fields", .dict (availPV fields)), ("configuration", .dict ((.str resName, .set []) :: others)),
     ("resource", .dict [(.str "name", .str resName)]), ("regex", .bool true), ("fields", .list (ps.map PV.str))]
    hnd (by simp [SsOut, lookup_cons])
  refine ⟨⟨env', []⟩, ?_, by simpa using h3⟩
  rw [select_schema_loop_is, exec_forIn_var _ _ _ _ _ (ps.map PV.str) (by simp [get_cons, Except.bind])]
  exact h1

theorem select_schema_is_model (O : ReOracle) (pats : List String) (r : Res) (r' : Res) (h : selectFieldsRes O pats r = .ok r') :
    r'.fields = selectLoop O pats r.fields := by
  rw [selectFieldsRes_ok h]

end Df.Tie
