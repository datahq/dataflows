import DfProps.TieRow
import DfModel.Compute

/-!
# Tie (C15, C02): `add_computed_field.get_type` **as written in /repo now** = `getType`

The rule that declares the type of a computed field is re-translated from processors/add_computed_field.py on every run
(`Live.Py.computed_get_type`).  `Tie_get_type`: for the modelled operations (sum, max, min, multiply, constant, join) and every
list of schema fields and source names the function returns the model's `getType`: `any` as soon as a source is `any`, text
for `join`, `number` as soon as a source is a number, else the type of the first source in *schema* order, `any` without
sources.  `C15_getType_number / _any / _join` and `C02_preserve_computed` are about `getType`.
-/

namespace Df.Tie
open Df Df.Py

def opName : CompOp → String
  | .sum => "sum" | .max => "max" | .min => "min" | .multiply => "multiply" | .constant => "constant" | .join => "join"

def srcTypes (fields : List Field) (sources : List String) : List String :=
  (fields.filter (fun f => sources.contains f.name)).map Field.type

theorem types_comp (ext : Ext) (env : Env) (fields : List Field) (sources : List String)
    (hf : env.get "res_fields" = .ok (.list (fields.map dsFieldPV))) (hs : env.get "operation_fields" = .ok (.list (sources.map PV.str))) :
    evalE ext env (.comp .list (.call .get (.cons (.var "f") (.cons (.const (.str "type")) .nil))) "f" (.var "res_fields")
        (.call .in_ (.cons (.call .getitem (.cons (.var "f") (.cons (.const (.str "name")) .nil))) (.cons (.var "operation_fields") .nil))))
      = .ok (.list ((srcTypes fields sources).map PV.str)) := by
  rw [evalE, show evalE ext env (.var "res_fields") = _ from hf]
  simp only [iterOf, bind, Except.bind]
  have := compLoop_filterMap (α := Field)
    (fun v => (do
      let env' := env.set "f" v
      let c ← evalE ext env' (.call .in_ (.cons (.call .getitem (.cons (.var "f") (.cons (.const (.str "name")) .nil))) (.cons (.var "operation_fields") .nil)))
      if c.truthy then (do let r ← evalE ext env' (.call .get (.cons (.var "f") (.cons (.const (.str "type")) .nil))); pure (some r))
      else pure Option.none : Except Err (Option PV)))
    dsFieldPV (fun f => if sources.contains f.name then some (PV.str f.type) else Option.none)
    (fun f => by cases hc : sources.contains f.name <;> simp [pyl, hs, dsFieldPV, elem_str] <;> simpa using hc)
    fields []
  rw [List.nil_append, filterMap_ite (fun f : Field => sources.contains f.name) (fun f => PV.str f.type)] at this
  exact this.trans (by rw [srcTypes, List.map_map]; rfl)

theorem Tie_get_type (ext : Ext) (fields : List Field) (sources : List String) (op : CompOp) :
    callFn ext Live.Py.computed_get_type [.list (fields.map dsFieldPV), .list (sources.map PV.str), .str (opName op)]
      = .ok (.str (getType fields sources op)) := by
  have ht := types_comp ext [("operation", .str (opName op)), ("operation_fields", .list (sources.map PV.str)), ("res_fields", .list (fields.map dsFieldPV))]
    fields sources (by simp [get_cons]) (by simp [get_cons])
  have hty : getType fields sources op =
      (if (srcTypes fields sources).contains "any" then "any" else if op = .join then "string"
       else if (srcTypes fields sources).contains "number" then "number"
       else match srcTypes fields sources with | t :: _ => t | [] => "any") := by rfl
  obtain ⟨hj, ha⟩ : PV.elem (.str (opName op)) [.str "format", .str "join"] = decide (op = .join) ∧ (opName op == "avg") = false := by
    cases op <;> exact ⟨rfl, rfl⟩
  unfold callFn Live.Py.computed_get_type
  simp only [bindParams, Env.set, bind, Except.bind]
  rw [exec_seq_assign ht, hty]
  generalize srcTypes fields sources = ts
  -- the four guarded returns, in the order of the source; each test is evaluated once, then decided
  rw [exec_guard (v := .bool (ts.contains "any")) (by simp [pyl, elem_str])]
  cases hany : ts.contains "any" with
  | true => simp [pyl]
  | false =>
  rw [truthy_bool, if_neg Bool.false_ne_true, exec_guard (v := .bool (decide (op = .join))) (by simp [pyl, hj])]
  by_cases hjo : op = .join
  · simp [pyl, hjo]
  rw [truthy_bool, decide_eq_false hjo, if_neg Bool.false_ne_true, exec_guard (v := .bool (ts.contains "number")) (by simp [pyl, elem_str, ha])]
  cases hnum : ts.contains "number" with
  | true => simp [pyl, hjo]
  | false =>
  rw [truthy_bool, if_neg Bool.false_ne_true]
  cases ts with
  | nil => simp [pyl, hjo]
  | cons t rest =>
    have : ¬ ((rest.length : Int) + 1 = 0) := by omega
    simp [pyl, hjo, this]

end Df.Tie
