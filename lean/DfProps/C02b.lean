import DfProps.C15b
import DfProps.C02

/-!
# C02 — add_computed_field keeps rows valid for the declared type

For the arithmetic operations (sum, max, min, multiply) over sources declared `integer` or
`number`, the value stored under the target is valid for the type `getType` declares:
all-integer sources give an integer (declared `integer`), any `number` source gives a number
(declared `number`), and no source at all gives `any`.  `V` is Table Schema's validity, of which
only the facts in `NumV` are used.
-/

namespace Df

structure NumV (V : Valid) : Prop where
  any_all : ∀ v, V "any" v = true
  int_int : ∀ i, V "integer" (.int i) = true
  num_int : ∀ i, V "number" (.int i) = true
  num_dec : ∀ m e, V "number" (.dec m e) = true
  int_only : ∀ v, V "integer" v = true → ∃ i, v = .int i
  num_only : ∀ v, V "number" v = true → (∃ i, v = .int i) ∨ (∃ m e, v = .dec m e)

def IsInt (v : Val) : Prop := ∃ i, v = .int i
def IsNum (v : Val) : Prop := (∃ i, v = .int i) ∨ (∃ m e, v = .dec m e)

theorem addV_num {a b c : Val} (ha : IsNum a) (hb : IsNum b) (h : addV a b = .ok c) : IsNum c := by
  rcases ha with ⟨i, rfl⟩ | ⟨m, e, rfl⟩ <;> rcases hb with ⟨j, rfl⟩ | ⟨m', e', rfl⟩ <;> cases h
  · exact Or.inl ⟨_, rfl⟩
  all_goals exact Or.inr ⟨_, _, rfl⟩

theorem addV_int {a b c : Val} (ha : IsInt a) (hb : IsInt b) (h : addV a b = .ok c) : IsInt c := by
  obtain ⟨i, rfl⟩ := ha; obtain ⟨j, rfl⟩ := hb; cases h; exact ⟨_, rfl⟩

theorem mulV_num {a b c : Val} (ha : IsNum a) (hb : IsNum b) (h : mulV a b = .ok c) : IsNum c := by
  rcases ha with ⟨i, rfl⟩ | ⟨m, e, rfl⟩ <;> rcases hb with ⟨j, rfl⟩ | ⟨m', e', rfl⟩ <;> cases h
  · exact Or.inl ⟨_, rfl⟩
  all_goals exact Or.inr ⟨_, _, rfl⟩

theorem mulV_int {a b c : Val} (ha : IsInt a) (hb : IsInt b) (h : mulV a b = .ok c) : IsInt c := by
  obtain ⟨i, rfl⟩ := ha; obtain ⟨j, rfl⟩ := hb; cases h; exact ⟨_, rfl⟩

def CompOp.arith : CompOp → Prop
  | .sum | .max | .min | .multiply => True
  | _ => False

/-- Whatever an arithmetic operation returns on values of a class closed under + and × is in the class:
`sum` and `multiply` fold the operation, `max` and `min` keep one of the two values they compare. -/
theorem compute_closed (P : Val → Prop) (h0 : P (.int 0))
    (hadd : ∀ a b c, P a → P b → addV a b = .ok c → P c) (hmul : ∀ a b c, P a → P b → mulV a b = .ok c → P c)
    (pyStr : Val → String) (op : CompOp) (harith : op.arith) (w : String) (values : List Val)
    (hv : ∀ x ∈ values, P x) (v : Val) (h : compute pyStr op w values = .ok v) : P v := by
  have pick : ∀ (t : Except Err Bool) (a x b : Val), P a → P x →
      (do if (← t) then pure x else pure a) = .ok b → P b := by
    intro t a x b ha hx h
    obtain ⟨c, -, h⟩ := (Except.bind_eq_ok _ _ _).mp h
    cases c <;> cases h <;> assumption
  cases op with
  | sum => exact foldlM_ok_inv P (fun x hx a b ha h => hadd a x b ha (hv x hx) h) h0 h
  | multiply =>
    cases values with
    | nil => cases h
    | cons a as =>
      exact foldlM_ok_inv P (fun x hx b c hb h => hmul b x c hb (hv x (List.mem_cons_of_mem _ hx)) h)
        (hv a List.mem_cons_self) h
  | max | min =>
    cases values with
    | nil => cases h
    | cons a as =>
      exact foldlM_ok_inv P (fun x hx b c hb h => pick _ b x c hb (hv x (List.mem_cons_of_mem _ hx)) h)
        (hv a List.mem_cons_self) h
  | constant | join => exact harith.elim

theorem sourceValues_typed (V : Valid) (fields : List Field) (sources : List String) (row : Row)
    (hrow : RowOk V fields row) :
    ∀ x ∈ sourceValues sources row, ∃ f ∈ fields, f.name ∈ sources ∧ V f.type x = true := by
  intro x hx
  simp only [sourceValues, List.mem_filter, List.mem_map] at hx
  obtain ⟨⟨s, hs, rfl⟩, hne⟩ := hx
  -- a non-null `row.get(s)` is a cell of the row
  obtain ⟨f, hf, hfn, hval⟩ := hrow _ ((Row.getD_null_or_mem row s).resolve_left (by simpa using hne))
  exact ⟨f, hf, hfn ▸ hs, hval.resolve_left (by simpa using hne)⟩

theorem computedRes_ok {pyStr : Val → String} {target : String} {op : CompOp} {sources : List String} {w : String}
    {r r' : Res} (hr : computedRes pyStr target op sources w r = .ok r') :
    ∃ rows', r' = { r with fields := r.fields ++ [{ name := target, type := getType r.fields sources op }], rows := rows' } ∧
      ∀ row' ∈ rows', ∃ row ∈ r.rows, ∃ v, compute pyStr op w (sourceValues sources row) = .ok v ∧
        row' = Row.set row target v := by
  obtain ⟨rows', hm, rfl⟩ := computedRes_mapM hr
  exact ⟨rows', rfl, fun _ h => let ⟨row, hrow, hf⟩ := mapM_ok_mem hm h; ⟨row, hrow, computedRow_ok hf⟩⟩

theorem getType_uniform (fields : List Field) (sources : List String) (op : CompOp) (t : String)
    (hall : ∀ f ∈ fields, f.name ∈ sources → f.type = t) :
    getType fields sources op = t ∨ getType fields sources op = "any" ∨ op = .join := by
  unfold getType
  have hty : ∀ t' ∈ (fields.filter (fun f => sources.contains f.name)).map Field.type, t' = t := by
    intro t' ht'
    obtain ⟨f, hf, rfl⟩ := List.mem_map.mp ht'
    exact hall f (List.mem_filter.mp hf).1 (by simpa using (List.mem_filter.mp hf).2)
  generalize (fields.filter (fun f => sources.contains f.name)).map Field.type = types at hty
  by_cases hop : op = .join
  · exact Or.inr (Or.inr hop)
  · simp only [hop, if_false]
    split
    · exact Or.inr (Or.inl rfl)
    · split
      · exact Or.inl (hty "number" (List.contains_iff_mem.mp ‹_›))
      · cases types with
        | nil => exact Or.inr (Or.inl rfl)
        | cons a as => exact Or.inl (hty a (by simp))

/-- **add_computed_field (sum / max / min / multiply over integer and number sources) keeps every
resource conforming**: the value stored under a fresh target is valid for the declared type. -/
theorem C02_preserve_computed (V : Valid) (hV : NumV V) (pyStr : Val → String) (target : String) (op : CompOp)
    (harith : op.arith) (sources : List String) (w : String) (r r' : Res)
    (h : ResOk V r) (hfresh : target ∉ r.fieldNames)
    (hsrc : ∀ f ∈ r.fields, f.name ∈ sources → f.type = "integer" ∨ f.type = "number")
    (hr : computedRes pyStr target op sources w r = .ok r') : ResOk V r' := by
  obtain ⟨rows', rfl, hrows⟩ := computedRes_ok hr
  have hopj : op ≠ .join := by intro e; subst e; simp [CompOp.arith] at harith
  refine h.addColumn (f := { name := target, type := getType r.fields sources op }) hfresh fun row' hrow' => ?_
  obtain ⟨row, hrow, v, hv, rfl⟩ := hrows row' hrow'
  refine ⟨row, hrow, v, Or.inr ?_, rfl⟩
  have htyped := sourceValues_typed V r.fields sources row (h.2 _ hrow)
  by_cases hnum : ∃ f ∈ r.fields, f.name ∈ sources ∧ f.type = "number"
  · rw [C15_getType_number r.fields sources op
      (fun f hf hs => by rcases hsrc f hf hs with e | e <;> rw [e] <;> decide) hopj hnum]
    have : IsNum v := compute_closed IsNum (Or.inl ⟨0, rfl⟩)
      (fun _ _ _ => addV_num) (fun _ _ _ => mulV_num) pyStr op harith w _
      (fun x hx => by
        obtain ⟨f, hf, hs, hvx⟩ := htyped x hx
        rcases hsrc f hf hs with e | e
        · rw [e] at hvx; exact Or.inl (hV.int_only x hvx)
        · rw [e] at hvx; exact hV.num_only x hvx) v hv
    rcases this with ⟨i, rfl⟩ | ⟨m, e, rfl⟩
    · exact hV.num_int i
    · exact hV.num_dec m e
  · have hall : ∀ f ∈ r.fields, f.name ∈ sources → f.type = "integer" := fun f hf hs =>
      (hsrc f hf hs).resolve_right fun e => hnum ⟨f, hf, hs, e⟩
    obtain ⟨n, rfl⟩ : IsInt v := compute_closed IsInt ⟨0, rfl⟩
      (fun _ _ _ => addV_int) (fun _ _ _ => mulV_int) pyStr op harith w _
      (fun x hx => by
        obtain ⟨f, hf, hs, hvx⟩ := htyped x hx
        rw [hall f hf hs] at hvx; exact hV.int_only x hvx) v hv
    rcases getType_uniform r.fields sources op "integer" hall with e | e | e
    · rw [e]; exact hV.int_int n
    · rw [e]; exact hV.any_all _
    · exact absurd e hopj

example : NumV (fun t v => match t, v with
    | "any", _ => true
    | "integer", .int _ => true
    | "number", .int _ => true
    | "number", .dec _ _ => true
    | _, _ => false) := by
  refine ⟨fun _ => rfl, fun _ => rfl, fun _ => rfl, fun _ _ => rfl, ?_, ?_⟩
  · intro v h
    cases v with
    | int i => exact ⟨i, rfl⟩
    | _ => cases h
  · intro v h
    cases v with
    | int i => exact Or.inl ⟨i, rfl⟩
    | dec m e => exact Or.inr ⟨m, e, rfl⟩
    | _ => cases h

end Df
