import DfModel.Parallelize
import DfProps.TieQueue

/-!
# Tie (C18): one turn of the fetcher loop of `parallelize` **as written in /repo now** = the model's `fPut` step

    while True:
        row = q_out.get()
        if row is None:
            expected_nones -= 1
            if expected_nones == 0:
                q_internal.put(None)
                break
            continue
        q_internal.put(row)

The body of the `while` is re-translated from processors/parallelize.py on every run (`Live.Py.par_fetcher_body`, locator
`@while:k`; `q.put(v)` is translated with the queue as a value, `q = put!(q, v)`, and `q.get()` as an external that answers
what the fetcher takes).  `Tie_fetcher_turn`: what one turn does with the item it took — a row is appended to `q_internal`
and the loop goes on; an end marker is counted, and only the last expected one appends the end marker to `q_internal` and
leaves the loop (`break`); any earlier one changes nothing else (`continue`).  `fetcher_turn_is_fPut`: that is the `fPut`
step of the `Df.Par` state machine (`qInt`, `expected`, `fDone`) that `C18_*` are proved about — in particular the end marker
reaches the collector only after the markers of all workers, hence after all their rows.

The other actors are tied in `TieProducer`, `TieWorker` and `TieCollector`; the scheduling itself is left to the trace
correspondence of the C18 check.
-/

namespace Df.Tie.Fetcher
open Df Df.Py

def turn (ext : Ext) (qo : PV) (q : List PV) (n : Int) : Except Err (Ctl × Env) := do
  let env ← bindParams Live.Py.par_fetcher_body.params [qo, .list q, .int n] []
  let (c, st) ← exec ext Live.Py.par_fetcher_body.body { env := env }
  pure (c, st.env)

/-- the queues as the code sees them: `get` answers the item taken, `put` appends -/
def QExt (ext : Ext) (qo hold : PV) : Prop :=
  ext ".get" [qo] = .ok hold ∧ ∀ xs v, ext ".put!" [.list xs, v] = .ok (.list (xs ++ [v]))

theorem Tie_fetcher_turn (ext : Ext) (qo hold : PV) (q : List PV) (n : Int) (h : QExt ext qo hold) :
    ∃ env, turn ext qo q n = .ok (
        (if isNone hold then (if n - 1 = 0 then Ctl.brk else Ctl.cont) else Ctl.next), env)
      ∧ env.lookup "q_internal" = some (.list (if isNone hold then (if n - 1 = 0 then q ++ [.none] else q) else q ++ [hold]))
      ∧ env.lookup "expected_nones" = some (.int (if isNone hold then n - 1 else n)) := by
  obtain ⟨hg, hp⟩ := h
  have hq : Env.get [("expected_nones", .int n), ("q_internal", .list q), ("q_out", qo)] "q_out" = .ok qo := by simp [get_cons]
  unfold turn Live.Py.par_fetcher_body
  simp only [bindParams, Env.set, bind, Except.bind, exec_take hq hg]
  cases hn : isNone hold with
  | false => exact ⟨_, by simp [pyl, hp]; rfl, by simp, by simp [lookup_cons]⟩
  | true =>
    by_cases h0 : n - 1 = 0
    · exact ⟨_, by simp [pyl, hp, h0]; rfl, by simp [h0], by simp [lookup_cons, h0]⟩
    · exact ⟨_, by simp [pyl, h0]; rfl, by simp [lookup_cons, h0], by simp⟩

/-- an item of `q_internal` / the item the fetcher holds, as the code sees it -/
def itemPV : Option Df.Par.Row → PV
  | none => .none
  | some r => .int r

theorem isNone_item (h : Option Df.Par.Row) : isNone (itemPV h) = h.isNone := by
  cases h <;> simp [itemPV, isNone]

/-- **one turn of the code = the model's `fPut`**: with the item `h` in hand, `expected` markers still expected and `qInt` in
the internal queue, the model's step leaves exactly what the turn of the code leaves: the same queue, the same count, and it
is finished exactly when the code leaves its loop -/
theorem fetcher_turn_is_fPut (p : Df.Par.Row → Bool) (f : Df.Par.Row → Df.Par.Row) (ext : Ext) (qo : PV) (s : Df.Par.St)
    (h : Option Df.Par.Row) (hh : s.fHold = some h) (hpos : 0 < s.expected) (hx : QExt ext qo (itemPV h)) :
    ∃ s' c env, Df.Par.step p f s .fPut = some s' ∧ turn ext qo (s.qInt.map itemPV) s.expected = .ok (c, env)
      ∧ env.lookup "q_internal" = some (.list (s'.qInt.map itemPV))
      ∧ env.lookup "expected_nones" = some (.int s'.expected)
      ∧ (s'.fDone = true ↔ (c = .brk ∨ s.fDone = true)) ∧ s'.fHold = none := by
  obtain ⟨env, ht, hq, he⟩ := Tie_fetcher_turn ext qo (itemPV h) (s.qInt.map itemPV) s.expected hx
  cases h with
  | some r =>
    refine ⟨{ s with fHold := none, qInt := s.qInt ++ [some r] }, _, env, by simp [Df.Par.step, hh], ht, ?_, ?_, ?_, rfl⟩
    · simpa [itemPV, isNone] using hq
    · simpa [itemPV, isNone] using he
    · simp [itemPV, isNone]
  | none =>
    by_cases h1 : s.expected = 1
    · have h0 : (s.expected : Int) - 1 = 0 := by omega
      refine ⟨{ s with fHold := none, expected := 0, fDone := true, qInt := s.qInt ++ [none] }, _, env,
        by simp [Df.Par.step, hh, h1], ht, ?_, ?_, ?_, rfl⟩
      · simpa [itemPV, isNone, h0] using hq
      · simpa [itemPV, isNone, h0] using he
      · simp [itemPV, isNone, h0]
    · have h0 : ¬ ((s.expected : Int) - 1 = 0) := by omega
      refine ⟨{ s with fHold := none, expected := s.expected - 1 }, _, env, by simp [Df.Par.step, hh, h1], ht, ?_, ?_, ?_, rfl⟩
      · simpa [itemPV, isNone, h0] using hq
      · have : ((s.expected - 1 : Nat) : Int) = (s.expected : Int) - 1 := by omega
        simpa [itemPV, isNone, h0, this] using he
      · simp [itemPV, isNone, h0]

/-- non-vacuity: queues that behave as `QExt` asks -/
example : QExt (fun name vs => match name, vs with
    | ".get", [_] => .ok (.int 7)
    | ".put!", [.list xs, v] => .ok (.list (xs ++ [v]))
    | _, _ => .error (.missingExt name)) (.str "q_out") (.int 7) := ⟨rfl, fun _ _ => rfl⟩

end Df.Tie.Fetcher
