import DfModel.DumpFs
import DfProps.C08

/-!
# C19 — a dump descriptor is written only after its data files are complete
-/

namespace Df.Dump

/-! The output directory of a dump is the checkpoint file system without `rename`: `create` is opening for
writing, a `chunk` is a written line. -/

theorem get?_eq (fs : FS) (p : Path) : get? fs p = Ckpt.FS.get? fs p := by
  induction fs with
  | nil => rfl
  | cons e rest ih => simp only [get?, Ckpt.FS.get?, ih]

theorem put_eq (fs : FS) (p : Path) (c : List String) : put fs p c = Ckpt.FS.put fs p c := by
  induction fs with
  | nil => rfl
  | cons e rest ih => simp only [put, Ckpt.FS.put, ih]

def target : Eff → Path
  | .create p => p
  | .chunk p _ => p
  | .close p => p

def emb : Eff → Ckpt.Eff
  | .create p => .openTrunc p
  | .chunk p c => .writeLine p c
  | .close p => .close p

theorem file_emb (e : Eff) : (emb e).file = some (target e) := by cases e <;> rfl

theorem applyAll_emb (fs : FS) (es : List Eff) : applyAll fs es = Ckpt.applyAll fs (es.map emb) := by
  rw [applyAll, Ckpt.applyAll, List.foldl_map]
  congr; funext fs e
  cases e <;> simp only [applyEff, emb, Ckpt.applyEff, put_eq, get?_eq]

theorem copyEffects_emb (p : Path) (chunks : List String) : (copyEffects p chunks).map emb = Ckpt.writeFile p chunks := by
  simp [copyEffects, Ckpt.writeFile, emb]

theorem applyAll_other (q : Path) (es : List Eff) (fs : FS) (h : ∀ e ∈ es, target e ≠ q) :
    get? (applyAll fs es) q = get? fs q := by
  rw [get?_eq, get?_eq, applyAll_emb]
  refine Ckpt.applyAll_other q _ fs fun e he => ?_
  obtain ⟨e0, he0, rfl⟩ := List.mem_map.mp he
  exact ⟨target e0, file_emb e0, h e0 he0⟩

theorem applyAll_append (fs : FS) (a b : List Eff) : applyAll fs (a ++ b) = applyAll (applyAll fs a) b :=
  List.foldl_append

theorem copy_complete (fs : FS) (p : Path) (chunks : List String) :
    complete (applyAll fs (copyEffects p chunks)) p chunks := by
  rw [complete, get?_eq, applyAll_emb, copyEffects_emb]
  exact Ckpt.writeFile_get? fs p chunks

theorem copy_targets (p : Path) (chunks : List String) : ∀ e ∈ copyEffects p chunks, target e = p :=
  fun e he => Option.some.inj <| (file_emb e).symm.trans <|
    Ckpt.writeFile_file p chunks _ (copyEffects_emb p chunks ▸ List.mem_map_of_mem he)

theorem data_targets {files : List DataFile} {e : Eff}
    (he : e ∈ files.flatMap (fun f => copyEffects f.path f.chunks)) : ∃ f ∈ files, target e = f.path :=
  let ⟨f, hf, he⟩ := List.mem_flatMap.1 he
  ⟨f, hf, copy_targets f.path f.chunks e he⟩

theorem files_complete : ∀ (files : List DataFile) (fs : FS), (files.map (·.path)).Nodup →
    ∀ f ∈ files, complete (applyAll fs (files.flatMap (fun f => copyEffects f.path f.chunks))) f.path f.chunks := by
  intro files
  induction files with
  | nil => intro fs _ f hf; cases hf
  | cons g rest ih =>
    intro fs hnd f hf
    have hnd := List.nodup_cons.1 hnd
    rw [List.flatMap_cons, applyAll_append]
    rcases List.mem_cons.1 hf with rfl | hf
    · -- the later copies do not touch f
      refine (applyAll_other f.path _ _ fun e he heq => ?_).trans (copy_complete fs f.path f.chunks)
      obtain ⟨g', hg', he⟩ := data_targets he
      exact hnd.1 (List.mem_map.2 ⟨g', hg', he.symm.trans heq⟩)
    · exact ih _ hnd.2 f hf

/-- **Descriptor last**: in the effect list of a dump, every effect on the descriptor comes
after every effect on every data file. -/
theorem C19_descriptor_last (files : List DataFile) (descPath : Path) (descChunks : List String)
    (hd : ∀ f ∈ files, f.path ≠ descPath) :
    ∃ pre post, dumpEffects files descPath descChunks = pre ++ post ∧
      (∀ e ∈ pre, target e ≠ descPath) ∧ (∀ e ∈ post, target e = descPath) :=
  ⟨_, _, rfl, fun _ he => let ⟨f, hf, e⟩ := data_targets he; e ▸ hd f hf, copy_targets descPath descChunks⟩

/-- **C19.** At any interruption point (any prefix of the effect list), starting from a
directory without a descriptor: if `datapackage.json` exists at all — let alone complete and
parseable — every data file it lists is already complete. -/
theorem C19_prefix_safe (files : List DataFile) (descPath : Path) (descChunks : List String)
    (hnd : (files.map (·.path)).Nodup) (hd : ∀ f ∈ files, f.path ≠ descPath)
    (fs0 : FS) (h0 : get? fs0 descPath = none) (E' : List Eff)
    (hpre : E' <+: dumpEffects files descPath descChunks)
    (hexists : (get? (applyAll fs0 E') descPath).isSome) :
    ∀ f ∈ files, complete (applyAll fs0 E') f.path f.chunks := by
  -- E' either stays within the data part (descriptor absent: contradiction) or covers it
  rcases List.prefix_or_prefix_of_prefix hpre (List.prefix_append _ (copyEffects descPath descChunks))
    with h | ⟨t, rfl⟩
  · rw [applyAll_other descPath E' fs0 fun e he =>
      let ⟨f, hf, e⟩ := data_targets (h.subset he); e ▸ hd f hf, h0] at hexists
    cases hexists
  · intro f hf
    have ht : t <+: copyEffects descPath descChunks := (List.prefix_append_right_inj _).1 hpre
    rw [applyAll_append]
    exact (applyAll_other f.path t _ fun e he =>
      copy_targets descPath descChunks e (ht.subset he) ▸ (hd f hf).symm).trans (files_complete files fs0 hnd f hf)

/-- and the complete dump leaves everything complete, descriptor included -/
theorem C19_full_dump_complete (files : List DataFile) (descPath : Path) (descChunks : List String)
    (fs0 : FS) : complete (applyAll fs0 (dumpEffects files descPath descChunks)) descPath descChunks := by
  simp only [dumpEffects, applyAll_append]
  exact copy_complete _ descPath descChunks

example : (get? (applyAll [] ((dumpEffects [⟨"a.csv", ["h\r\n", "1\r\n"]⟩, ⟨"b.csv", ["h\r\n"]⟩] "datapackage.json" ["{", "}"]).take 7))
    "datapackage.json") = none := by decide

end Df.Dump
