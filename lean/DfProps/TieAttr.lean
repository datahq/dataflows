import Lean.Meta.Tactic.Simp.RegisterCommand

/-- The PyLite evaluator as a simp set, filled in `TieBase`: `simp [pyl]` runs a translated function on symbolic arguments. -/
register_simp_attr pyl
