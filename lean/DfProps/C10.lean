import DfProps.C16

/-!
# C10 — resource selectors mean the same thing in every processor

Two halves.  (1) *One meaning*: the predicate a constructed `ResourceMatcher` computes
(`Sel.resolve`) coincides, on every package with unique resource names, with the
specification `Sel.selects` (None ↦ all, pattern ↦ full match, list ↦ membership, int ↦
position, negative from the end) — for every regular-expression oracle.  (2) *Frame*:
every processor built on `mapSel` touches only the selected resources; the others pass
through with identical descriptor and rows, positions kept.
-/

namespace Df

theorem pyIndex_some_iff {α} (l : List α) (i : Int) (x : α) :
    pyIndex l i = some x ↔
      ∃ k, l[k]? = some x ∧ (if 0 ≤ i then k = i.toNat else k + (-i).toNat = l.length) := by
  unfold pyIndex
  by_cases h : 0 ≤ i
  · simp [h]
  · simp only [h, if_false]
    by_cases h2 : (-i).toNat ≤ l.length
    · rw [if_pos h2]
      exact ⟨fun hx => ⟨_, hx, Nat.sub_add_cancel h2⟩, fun ⟨k, hk, he⟩ => by rwa [← he, Nat.add_sub_cancel]⟩
    · rw [if_neg h2]
      exact ⟨nofun, fun ⟨k, _, he⟩ => absurd (he ▸ Nat.le_add_left _ k) h2⟩

/-- (1) The matcher computes the specification: for names without duplicates, a resolved
selector answers `selects` at every position. -/
theorem C10_matcher_spec (O : ReOracle) (names : List String) (hnd : names.Nodup)
    (s : Sel) (m : String → Bool) (hres : s.resolve O names = .ok m)
    (pos : Nat) (name : String) (hpos : names[pos]? = some name) :
    m name = s.selects O names pos name := by
  cases s with
  | all => cases hres; rfl
  | re p => cases hres; rfl
  | names l => cases hres; rfl
  | idx i =>
    simp only [Sel.resolve] at hres
    split at hres
    · rename_i n0 hn0
      cases hres
      obtain ⟨k, hk, hki⟩ := (pyIndex_some_iff names i n0).mp hn0
      -- names are distinct, so the name at `pos` is the selected one iff `pos` is the selected position
      have hiff : name = n0 ↔ pos = k :=
        ⟨fun e => (List.getElem?_inj (List.getElem?_eq_some_iff.mp hpos).1 hnd).mp (hpos.trans (e ▸ hk.symm)),
         fun e => by subst e; exact Option.some.inj (hpos.symm.trans hk)⟩
      rw [Bool.eq_iff_iff]
      simp only [Sel.selects, beq_iff_eq, hiff]
      split at hki <;> simp only [*, if_true, if_false, beq_iff_eq] <;> omega
    · cases hres

/-- An out-of-range integer selector is rejected, never resolved to "nothing". -/
theorem C10_index_out_of_range (O : ReOracle) (names : List String) (i : Int)
    (h : ¬ (if 0 ≤ i then i.toNat < names.length else (-i).toNat ≤ names.length)) :
    ∃ e, (Sel.idx i).resolve O names = .error e := by
  simp only [Sel.resolve]
  have : pyIndex names i = none := by
    unfold pyIndex
    by_cases hi : 0 ≤ i
    · simp only [hi, if_true] at h ⊢; simp; omega
    · simp only [hi, if_false] at h ⊢
      simp [h]
  simp [this]

/-- (2) Frame: `mapSel` keeps length, names of unselected resources and the unselected
resources themselves (descriptor and rows), position by position. -/
theorem C10_frame_mapSel (m : String → Bool) (f : Res → Except Err Res) :
    ∀ (p q : Pkg), mapSel m f p = .ok q →
      q.length = p.length ∧
      ∀ (i : Nat) (r : Res), p[i]? = some r → m r.name = false → q[i]? = some r := by
  intro p q h
  rw [mapSel_eq_mapM] at h
  refine ⟨mapM_ok_length h, fun i r hr hm => ?_⟩
  obtain ⟨r', hq, hf⟩ := mapM_ok_getElem? h hr
  rw [hm] at hf
  cases hf; exact hq

/-- Frame under composition: whatever pipeline ran before (any steps, any length), a selecting step leaves the
resources it does not select exactly as that pipeline left them. -/
theorem C10_frame_after_any_prefix (steps : List (Pkg → Except Err Pkg)) (m : String → Bool)
    (f : Res → Except Err Res) (p p1 q : Pkg)
    (_h1 : steps.foldlM (fun acc s => s acc) p = .ok p1) (h2 : mapSel m f p1 = .ok q) :
    q.length = p1.length ∧ ∀ (i : Nat) (r : Res), p1[i]? = some r → m r.name = false → q[i]? = some r :=
  C10_frame_mapSel m f p1 q h2

/-- Selected resources are exactly the ones `f` is applied to. -/
theorem C10_acts_on_selected (m : String → Bool) (f : Res → Except Err Res) :
    ∀ (p q : Pkg), mapSel m f p = .ok q →
      ∀ (i : Nat) (r : Res), p[i]? = some r → m r.name = true → ∃ r', f r = .ok r' ∧ q[i]? = some r' := by
  intro p q h i r hr hm
  rw [mapSel_eq_mapM] at h
  obtain ⟨r', hq, hf⟩ := mapM_ok_getElem? h hr
  rw [hm] at hf
  exact ⟨r', hf, hq⟩

theorem frame_sel_step {O : ReOracle} {sel : Sel} {f : Res → Except Err Res} {p q : Pkg} {m : String → Bool}
    (hm : Sel.resolve O p.names sel = .ok m) (h : (sel.resolve O p.names >>= fun m => mapSel m f p) = .ok q) :
    ∀ (i : Nat) (r : Res), p[i]? = some r → m r.name = false → q[i]? = some r := by
  rw [hm] at h
  exact (C10_frame_mapSel m f p q h).2

/-! The frame theorem instantiated for each selector-taking Layer-A processor: whatever the
arguments, an unselected resource is found unchanged at the same position of the output. -/

theorem C10_frame_deleteFields (O) (fields regex sel) (p q : Pkg) (m : String → Bool)
    (hm : Sel.resolve O p.names sel = .ok m) (h : deleteFields O fields regex sel p = .ok q) :
    ∀ (i : Nat) (r : Res), p[i]? = some r → m r.name = false → q[i]? = some r :=
  frame_sel_step hm h

theorem C10_frame_selectFields (O) (fields regex sel) (p q : Pkg) (m : String → Bool)
    (hm : Sel.resolve O p.names sel = .ok m) (h : selectFields O fields regex sel p = .ok q) :
    ∀ (i : Nat) (r : Res), p[i]? = some r → m r.name = false → q[i]? = some r :=
  frame_sel_step hm h

theorem C10_frame_renameFields (O) (fields regex sel) (p q : Pkg) (m : String → Bool)
    (hm : Sel.resolve O p.names sel = .ok m) (h : renameFields O fields regex sel p = .ok q) :
    ∀ (i : Nat) (r : Res), p[i]? = some r → m r.name = false → q[i]? = some r :=
  frame_sel_step hm h

theorem C10_frame_addField (O) (f v sel) (p q : Pkg) (m : String → Bool)
    (hm : Sel.resolve O p.names sel = .ok m) (h : addField O f v sel p = .ok q) :
    ∀ (i : Nat) (r : Res), p[i]? = some r → m r.name = false → q[i]? = some r :=
  frame_sel_step hm h

theorem C10_frame_filterRows (O) (e n sel) (p q : Pkg) (m : String → Bool)
    (hm : Sel.resolve O p.names sel = .ok m) (h : filterRows O e n sel p = .ok q) :
    ∀ (i : Nat) (r : Res), p[i]? = some r → m r.name = false → q[i]? = some r :=
  frame_sel_step hm h

theorem C10_frame_deduplicate (O) (sel) (p q : Pkg) (m : String → Bool)
    (hm : Sel.resolve O p.names sel = .ok m) (h : deduplicate O sel p = .ok q) :
    ∀ (i : Nat) (r : Res), p[i]? = some r → m r.name = false → q[i]? = some r :=
  frame_sel_step hm h

theorem C10_frame_setPrimaryKey (O) (pk sel) (p q : Pkg) (m : String → Bool)
    (hm : Sel.resolve O p.names sel = .ok m) (h : setPrimaryKey O pk sel p = .ok q) :
    ∀ (i : Nat) (r : Res), p[i]? = some r → m r.name = false → q[i]? = some r :=
  frame_sel_step hm h

theorem C10_frame_updateResource (O) (props sel) (p q : Pkg) (m : String → Bool)
    (hm : Sel.resolve O p.names sel = .ok m) (h : updateResource O props sel p = .ok q) :
    ∀ (i : Nat) (r : Res), p[i]? = some r → m r.name = false → q[i]? = some r :=
  frame_sel_step hm h

theorem C10_frame_unpivot (O) (us eks ev regex sel) (p q : Pkg) (m : String → Bool)
    (hm : Sel.resolve O p.names sel = .ok m) (h : unpivot O us eks ev regex sel p = .ok q) :
    ∀ (i : Nat) (r : Res), p[i]? = some r → m r.name = false → q[i]? = some r :=
  frame_sel_step hm h

/-- delete_resource removes exactly the selected resources and keeps the others in order. -/
theorem C10_frame_deleteResource (O) (sel) (p q : Pkg) (m : String → Bool)
    (hm : Sel.resolve O p.names sel = .ok m) (h : deleteResource O sel p = .ok q) :
    q = p.filter (fun r => !(m r.name)) :=
  (C16_delete_exact O sel p q m hm h).1

/-- non-vacuity: a concrete package where a negative index selects the last resource and the
first passes through a deduplicate untouched -/
example : (deduplicate ⟨fun _ _ => false, fun _ _ => false, fun _ _ s => s⟩ (.idx (-1))
    [{ name := "a", pk := ["k"], rows := [[("k", .int 1)], [("k", .int 1)]] },
     { name := "ab", pk := ["k"], rows := [[("k", .int 1)], [("k", .bool true)]] }]).toOption.map
      (fun q => q.map (fun r => r.rows.length)) = some [2, 1] := by decide

end Df
