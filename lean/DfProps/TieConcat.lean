import DfProps.TieRow

/-!
# Tie (C16): `concatenate.concatenator` **as written in /repo now** = `concatRow` on every row of the chained resources

The generator that rewrites the rows of the concatenated resources is re-translated from processors/concatenate.py on every
run (`Live.Py.concatenator`).  `Tie_concat_row`: one row becomes — all target fields set to null, then overwritten by the
non-null cells whose field is mapped, under the mapped name — exactly the `Steps` model's `concatRow`; a row without a single
mapped non-null cell fails the step (both sides).  `Tie_concatenator`: the generator walks the resources in order and their
rows in order: its output is `concatRow` of every row, or the run fails at the first row on which `concatRow` fails.
(`C16_concat_rows` / `C16_concat_conservation` are about `concatStreams … concatRow`.)

Hypotheses: the embedding of cell values maps null, and only null, to `None`; the target field names are distinct (as the keys of
the `fields` argument of `concatenate` are).
-/

namespace Df.Tie
open Df Df.Py

variable (emb : Val → PV)

/-- the body of the inner loop (as in the source) -/
def cBody : S := (.seq (.assign "processed" (.call .dict_ (.cons (.comp .list (.call .mkTuple (.cons (.var "k") (.cons (.const .none) .nil))) "k" (.var "all_target_fields") (.const (.bool true))) .nil))) (.seq (.assign "values" (.comp2 .list (.call .mkTuple (.cons (.call .getitem (.cons (.var "field_mapping") (.cons (.var "k") .nil))) (.cons (.var "v") .nil))) "k" "v" (.call .items (.cons (.var "row") .nil)) (.and (.call .in_ (.cons (.var "k") (.cons (.var "field_mapping") .nil))) (.call .isnot (.cons (.var "v") (.cons (.const .none) .nil)))))) (.seq (.ite (.call .eq (.cons (.call .len (.cons (.var "values") .nil)) (.cons (.const (.int 0)) .nil))) (.seq (.assign "message" (.call .add (.cons (.const (.str "Got an empty row after concatenation")) (.cons (.call .mod (.cons (.const (.str "(resource=%s, source=%r)")) (.cons (.call .mkTuple (.cons (.call .attr (.cons (.call .attr (.cons (.var "resource_") (.cons (.const (.str "res")) .nil))) (.cons (.const (.str "name")) .nil))) (.cons (.var "row") .nil))) .nil))) .nil)))) (.assert_ (.call .gt (.cons (.call .len (.cons (.var "values") .nil)) (.cons (.const (.int 0)) .nil))))) .skip) (.seq (.mut "processed" "update" (.cons (.call .dict_ (.cons (.var "values") .nil)) .nil)) (.yield (.var "processed"))))))

def cOuter : S := .forIn "row" (.var "resource_") cBody

theorem concatenator_is : Live.Py.concatenator =
  { params := ["resources", "all_target_fields", "field_mapping"],
    body := .forIn "resource_" (.var "resources") cOuter, gen := true } := by rfl

/-- the mapped, non-null cells of a row under their target names (the `values` of the source) -/
def cKeep (mp : List (String × String)) (kv : String × Val) : Bool := (lookupStr mp kv.1).isSome && !(kv.2 == Val.null)
def cName (mp : List (String × String)) (k : String) : String := (lookupStr mp k).getD k

theorem concat_values (mp : List (String × String)) (row : Row) :
    row.filterMap (fun kv => match lookupStr mp kv.1 with
      | some t => if kv.2 = Val.null then none else some (t, kv.2)
      | none => none) = (row.filter (cKeep mp)).map (fun kv => (cName mp kv.1, kv.2)) := by
  rw [← filterMap_ite]
  refine congrArg (List.filterMap · row) (funext fun kv => ?_)
  cases hl : lookupStr mp kv.1 <;> by_cases hv : kv.2 = Val.null <;> simp [cKeep, cName, hl, hv]

theorem update_emb (other base : Row) :
    (other.map (fun kv => (PV.str kv.1, emb kv.2))).foldl (fun acc kv => PV.dset kv.1 kv.2 acc) (base.map (fun kv => (PV.str kv.1, emb kv.2)))
      = (Row.update base other).map (fun kv => (PV.str kv.1, emb kv.2)) :=
  List.foldl_map.trans (List.foldl_hom (List.map fun kv => (PV.str kv.1, emb kv.2)) fun acc p => dset_str emb acc p.1 p.2)

/-! `cBody` by parts, read off the term itself so that they cannot drift from it: the right-hand sides of its first two
assignments, the check that follows, the rest -/

def baseE : E := match cBody with | .seq (.assign _ e) _ => e | _ => .nil
def valuesE : E := match cBody with | .seq _ (.seq (.assign _ e) _) => e | _ => .nil
def checkS : S := match cBody with | .seq _ (.seq _ (.seq c _)) => c | _ => .skip
def cRest : S := match cBody with | .seq _ (.seq _ (.seq _ r)) => r | _ => .skip

theorem cBody_is : cBody = .seq (.assign "processed" baseE) (.seq (.assign "values" valuesE) (.seq checkS cRest)) := rfl

/-- `dict((k, None) for k in all_target_fields)` -/
theorem baseE_eval (hnull : emb Val.null = .none) (ext : Ext) (env : Env) (tf : List String) (htf : tf.Nodup)
    (h : env.get "all_target_fields" = .ok (.list (tf.map PV.str))) :
    evalE ext env baseE = .ok (rowPV emb (tf.map (fun k => (k, Val.null)))) := by
  have hd := opDict_emb emb (tf.map (fun k => (k, Val.null)))
  rw [ofPairs_nodup _ (by simpa [List.map_map, Function.comp_def] using htf)] at hd
  simp only [baseE, cBody, evalE, evalArgs, h, iterOf, bind, Except.bind, applyFn, builtinOp]
  rw [compLoop_filterMap _ PV.str (fun k => some (pairPV emb (k, Val.null)))
    (by intro k; simp [Env.set, opMkTuple, get_cons, PV.truthy, pure, Except.pure,
      pairPV, hnull])]
  simpa [List.filterMap_eq_map', List.map_map, Function.comp_def] using hd

/-- `[(field_mapping[k], v) for k, v in row.items() if k in field_mapping and v is not None]`: the mapped non-null cells
under their target names -/
theorem valuesE_eval (hemb : ∀ v, isNone (emb v) = (v == Val.null)) (ext : Ext) (env : Env) (mp : List (String × String)) (r : Row)
    (hrow : env.get "row" = .ok (rowPV emb r)) (hmp : env.get "field_mapping" = .ok (mapPV mp)) :
    evalE ext env valuesE = .ok (.list ((r.filter (cKeep mp)).map (fun kv => pairPV emb (cName mp kv.1, kv.2)))) := by
  apply items_comp_g emb ext env _ _ (cName mp) (cKeep mp) _ _ r hrow
  · intro k v hk
    simp only [cKeep, Bool.and_eq_true] at hk
    cases hl : lookupStr mp k with
    | none => simp [hl] at hk
    | some t => simp [evalE, evalArgs, get_cons, hmp, applyFn, builtinOp, opGetitem, mapPV, lookup_mapPV, hl, cName, bind, Except.bind]
  · intro k v
    simp only [evalE, evalArgs, get_cons, hmp, applyFn, builtinOp, opIn, containsPV, mapPV, lookup_mapPV, opIsnot, hemb, cKeep, bind,
      Except.bind, Except.map, String.reduceEq, if_false, if_true]
    cases lookupStr mp k <;> simp [PV.truthy]

/-- the resource object the inner loop runs over: its name (for the message) and its rows -/
def cRes (name : String) (rows : List PV) : PV :=
  .dict [(.str "res", .dict [(.str "name", .str name)]), (.str "__iter__", .list rows)]

def CEnv (tf : List String) (mp : List (String × String)) (env : Env) : Prop :=
  env.get "all_target_fields" = .ok (.list (tf.map PV.str)) ∧ env.get "field_mapping" = .ok (mapPV mp) ∧
  ∃ name rows, env.get "resource_" = .ok (cRes name rows)

theorem CEnv.frame {tf : List String} {mp : List (String × String)} {ws : List String} {env env' : Env} (h : CEnv tf mp env)
    (hf : Frame ws env env') (hw : "all_target_fields" ∉ ws ∧ "field_mapping" ∉ ws ∧ "resource_" ∉ ws) : CEnv tf mp env' :=
  let ⟨nm, rows, hr⟩ := h.2.2
  ⟨(hf.get hw.1).trans h.1, (hf.get hw.2.1).trans h.2.1, nm, rows, (hf.get hw.2.2).trans hr⟩

/-- the body of the loop, for any `processed` and `values` its first two statements compute.  On an empty `values` the
message of the assertion is not evaluated: whatever it gives, the step fails. -/
theorem concat_row_runs (ext : Ext) (base vals : Row) (env : Env) (out : List PV)
    (hvals : evalE ext (("processed", rowPV emb base) :: env) valuesE = .ok (.list (vals.map (pairPV emb))))
    (hbase : evalE ext env baseE = .ok (rowPV emb base)) :
    Runs AnyErr (fun r' => out ++ [rowPV emb r']) (fun _ => Frame ["processed", "values"] env)
      (if vals.isEmpty then .error (.assertion "Got an empty row after concatenation") else .ok (Row.update base (Row.ofPairs vals)))
      (exec ext cBody { env := env, out := out }) := by
  rw [cBody_is, exec_seq_assign hbase, exec_seq_assign hvals]
  cases vals with
  | nil =>
    obtain ⟨e', he⟩ : ∃ e', exec ext (.seq checkS cRest) (St.mk (("values", .list []) :: ("processed", rowPV emb base) :: env) out) = .error e' := by
      simp only [checkS, cRest, cBody]
      rw [exec, exec_ite (v := .bool true) (by simp [pyl]), if_pos (show (PV.bool true).truthy = true from rfl), exec, exec]
      generalize evalE ext _ (.call .add _) = m
      cases m with
      | error e => exact ⟨e, rfl⟩
      | ok v => exact ⟨.assertion "assert", by simp [pyl, PV.lt]⟩
    exact Runs.err he trivial
  | cons kv rest =>
    have hd := opDict_emb emb (kv :: rest)
    have hup := update_emb emb (Row.ofPairs (kv :: rest)) base
    simp only [checkS, cRest, cBody]
    rw [exec_seq_next (st' := St.mk (("values", .list ((kv :: rest).map (pairPV emb))) :: ("processed", rowPV emb base) :: env) out)]
    · refine Runs.ok (env' := ("processed", rowPV emb (Row.update base (Row.ofPairs (kv :: rest)))) :: ("values", .list ((kv :: rest).map (pairPV emb)))
        :: ("processed", rowPV emb base) :: env) ?_ (((Frame.refl _ env).set _ (by simp)).set _ (by simp) |>.set _ (by simp))
      simp only [rowPV] at hup hd ⊢
      simp only [pyl, hd, hup, String.reduceEq, if_false, if_true]
    · refine (exec_ite (v := .bool false) ?_).trans (by rw [exec]; rfl)
      -- the test `len(values) == 0`, on a list that is not empty
      simp [pyl]
      omega

theorem concat_row_step (hemb : ∀ v, isNone (emb v) = (v == Val.null)) (hnull : emb Val.null = .none) (ext : Ext)
    (tf : List String) (htf : tf.Nodup) (mp : List (String × String)) (r : Row) (env : Env) (out : List PV) (h : CEnv tf mp env) :
    Runs AnyErr (fun r' => out ++ [rowPV emb r']) (fun _ => CEnv tf mp) (concatRow tf mp r)
      (exec ext cBody { env := ("row", rowPV emb r) :: env, out := out }) := by
  have h1 := h.frame ((Frame.refl ["row"] env).set (x := "row") (rowPV emb r) (by simp)) (by simp)
  have ⟨ha, hm, _⟩ := h1
  have hbase := baseE_eval emb hnull ext (("row", rowPV emb r) :: env) tf htf ha
  have hvals := valuesE_eval emb hemb ext (("processed", rowPV emb (tf.map (fun k => (k, Val.null)))) :: ("row", rowPV emb r) :: env) mp r
    (by simp [get_cons]) (by simpa [get_cons] using hm)
  have hrun := concat_row_runs emb ext (tf.map (fun k => (k, Val.null))) ((r.filter (cKeep mp)).map (fun kv => (cName mp kv.1, kv.2)))
    (("row", rowPV emb r) :: env) out (by simpa [List.map_map, Function.comp_def] using hvals) hbase
  rw [show concatRow tf mp r = _ from congrArg (fun vals : List (String × Val) =>
      if vals.isEmpty then Except.error (Err.assertion "Got an empty row after concatenation")
      else .ok (Row.update (tf.map (fun k => (k, Val.null))) (Row.ofPairs vals))) (concat_values mp r)]
  exact hrun.mono fun _ _ hf => h1.frame hf (by simp)

/-- one row: the code's body and the model's `concatRow` agree — the same row comes out, or both fail -/
theorem Tie_concat_row (hemb : ∀ v, isNone (emb v) = (v == Val.null)) (hnull : emb Val.null = .none) (ext : Ext)
    (tf : List String) (htf : tf.Nodup) (mp : List (String × String)) (r : Row) (env : Env) (out : List PV) (h : CEnv tf mp env) :
    match concatRow tf mp r with
    | .ok r' => ∃ env', exec ext cBody { env := ("row", rowPV emb r) :: env, out := out }
        = .ok (.next, { env := env', out := out ++ [rowPV emb r'] }) ∧ CEnv tf mp env'
    | .error _ => ∃ e, exec ext cBody { env := ("row", rowPV emb r) :: env, out := out } = .error e := by
  exact Runs.to_match _ (concat_row_step emb hemb hnull ext tf htf mp r env out h) (fun _ h => h) (fun _ h => h)

theorem concat_rows_runs (hemb : ∀ v, isNone (emb v) = (v == Val.null)) (hnull : emb Val.null = .none) (ext : Ext)
    (tf : List String) (htf : tf.Nodup) (mp : List (String × String)) (rows : List Row) (env : Env) (out : List PV) (h : CEnv tf mp env) :
    Runs AnyErr (fun outs => out ++ outs.map (rowPV emb)) (fun _ => CEnv tf mp) (rows.mapM (concatRow tf mp))
      (loopFor (exec ext cBody) (bind1 "row") (rows.map (rowPV emb)) { env := env, out := out }) :=
  loopFor_map (rowPV emb) (concatRow tf mp) (rowPV emb) (CEnv tf mp) rows
    (fun r _ env out h => concat_row_step emb hemb hnull ext tf htf mp r env out h) env out h

theorem concat_inner (hemb : ∀ v, isNone (emb v) = (v == Val.null)) (hnull : emb Val.null = .none) (ext : Ext)
    (tf : List String) (htf : tf.Nodup) (mp : List (String × String)) (rows : List Row) :
    ∀ (env : Env) (out : List PV), CEnv tf mp env →
    match rows.mapM (concatRow tf mp) with
    | .ok outs => ∃ st', loopFor (exec ext cBody) (bind1 "row") (rows.map (rowPV emb)) { env := env, out := out } = .ok (.next, st')
        ∧ st'.out = out ++ outs.map (rowPV emb) ∧ CEnv tf mp st'.env
    | .error _ => ∃ e, loopFor (exec ext cBody) (bind1 "row") (rows.map (rowPV emb)) { env := env, out := out } = .error e := by
  intro env out h
  exact Runs.to_match _ (concat_rows_runs emb hemb hnull ext tf htf mp rows env out h)
    (fun _ ⟨_, he, hc⟩ => ⟨_, he, rfl, hc⟩) (fun _ h => h)

def CEnv0 (tf : List String) (mp : List (String × String)) (env : Env) : Prop :=
  env.get "all_target_fields" = .ok (.list (tf.map PV.str)) ∧ env.get "field_mapping" = .ok (mapPV mp)

def cResOf (nr : String × List Row) : PV := cRes nr.1 (nr.2.map (rowPV emb))

theorem mapM_flatMap {α β γ : Type} (g : α → List β) (f : β → Except Err γ) (xs : List α) :
    (xs.flatMap g).mapM f = (xs.mapM fun a => (g a).mapM f).map List.flatten := by
  induction xs with
  | nil => rfl
  | cons a rest ih =>
    rw [List.flatMap_cons, List.mapM_append, ih, List.mapM_cons]
    cases (g a).mapM f with
    | error e => rfl
    | ok bs => cases List.mapM (fun a => List.mapM f (g a)) rest <;> rfl

theorem concat_res_runs (hemb : ∀ v, isNone (emb v) = (v == Val.null)) (hnull : emb Val.null = .none) (ext : Ext)
    (tf : List String) (htf : tf.Nodup) (mp : List (String × String)) (ress : List (String × List Row)) (env : Env) (out : List PV)
    (h : CEnv0 tf mp env) :
    Runs AnyErr (fun outs => out ++ outs.map (rowPV emb)) (fun _ => CEnv0 tf mp) ((ress.flatMap Prod.snd).mapM (concatRow tf mp))
      (loopFor (exec ext cOuter) (bind1 "resource_") (ress.map (cResOf emb)) { env := env, out := out }) := by
  rw [mapM_flatMap]
  have hg := loopFor_mapM (Q := AnyErr) (body := exec ext cOuter) (bnd := bind1 "resource_") (cResOf emb)
    (fun nr => nr.2.mapM (concatRow tf mp)) (List.map (rowPV emb)) (CEnv0 tf mp) ress
    (fun nr _ env out h => by
      have hC : CEnv tf mp (("resource_", cResOf emb nr) :: env) :=
        ⟨by simpa [get_cons] using h.1, by simpa [get_cons] using h.2, nr.1, nr.2.map (rowPV emb), by simp [get_cons, cResOf]⟩
      show Runs AnyErr _ _ _ (exec ext cOuter ⟨("resource_", cResOf emb nr) :: env, out⟩)
      rw [cOuter, exec_forIn_var ext _ _ _ _ (nr.2.map (rowPV emb))
        (by simp [get_cons, iterLazy, cResOf, cRes, PV.lookup, PV.beq, iterOf, Except.map, Except.bind])]
      exact (concat_rows_runs emb hemb hnull ext tf htf mp nr.2 _ out hC).mono fun _ _ hc => ⟨hc.1, hc.2.1⟩)
    env out h
  exact hg.map_left fun outss r ⟨hc, ho, hp⟩ => ⟨hc, by rw [ho]; simp [List.map_flatten, List.flatMap_def], hp⟩

theorem concat_outer (hemb : ∀ v, isNone (emb v) = (v == Val.null)) (hnull : emb Val.null = .none) (ext : Ext)
    (tf : List String) (htf : tf.Nodup) (mp : List (String × String)) (ress : List (String × List Row)) :
    ∀ (env : Env) (out : List PV), CEnv0 tf mp env →
    match (ress.flatMap Prod.snd).mapM (concatRow tf mp) with
    | .ok outs => ∃ st', loopFor (exec ext cOuter) (bind1 "resource_") (ress.map (cResOf emb))
          { env := env, out := out } = .ok (.next, st') ∧ st'.out = out ++ outs.map (rowPV emb) ∧ CEnv0 tf mp st'.env
    | .error _ => ∃ e, loopFor (exec ext cOuter) (bind1 "resource_") (ress.map (cResOf emb))
          { env := env, out := out } = .error e := by
  intro env out h
  exact Runs.to_match _ (concat_res_runs emb hemb hnull ext tf htf mp ress env out h)
    (fun _ ⟨_, he, hc⟩ => ⟨_, he, rfl, hc⟩) (fun _ h => h)

/-- `concatenator`: `concatRow` of every row of every chained resource, in order — or the run fails at the first row on which
`concatRow` fails -/
theorem Tie_concatenator (hemb : ∀ v, isNone (emb v) = (v == Val.null)) (hnull : emb Val.null = .none) (ext : Ext)
    (tf : List String) (htf : tf.Nodup) (mp : List (String × String)) (ress : List (String × List Row)) :
    (callFn ext Live.Py.concatenator [.list (ress.map (cResOf emb)), .list (tf.map PV.str), mapPV mp]).toOption
      = ((ress.flatMap Prod.snd).mapM (concatRow tf mp)).toOption.map (fun outs => PV.list (outs.map (rowPV emb))) := by
  have hr := concat_res_runs emb hemb hnull ext tf htf mp ress
    [("field_mapping", mapPV mp), ("all_target_fields", .list (tf.map PV.str)), ("resources", .list (ress.map (cResOf emb)))] []
    ⟨by simp [get_cons], by simp [get_cons]⟩
  rw [← exec_forIn_var ext "resource_" "resources" cOuter _ _ (by simp [get_cons, Except.bind])] at hr
  rw [concatenator_is, callFn_gen _ _ rfl]
  simp only [bindParams, Env.set, Except.bind]
  exact hr.out_toOption

/-- non-vacuity: an embedding that maps exactly null to None, and distinct target fields -/
def embX : Val → PV
  | .null => .none
  | .bool b => .bool b
  | .int i => .int i
  | .str s => .str s
  | .dec _ _ => .tuple []
  | .other _ _ => .tuple []

example : (∀ v, isNone (embX v) = (v == Val.null)) ∧ embX Val.null = .none ∧ ["a", "b"].Nodup := by
  refine ⟨?_, rfl, by decide⟩
  intro v
  cases v <;> simp [embX, isNone] <;> decide

end Df.Tie
