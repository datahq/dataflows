import DfProps.TieLoop
import DfModel.Steps

/-! Model values as Python values, for the tie theorems of the functions that read or build rows: the embedding `rowPV` of a
row as a dict (text keys, the values through an arbitrary embedding `emb`; `embVal` is the standard one, `dsFieldPV` a schema
field), the lemmas that read `get` / `[]` / `[]=` / `dict(pairs)` / `.items()` on an embedded row as the model's `Row`
operations, the comprehension over `row.items()` with a key test and a key rewrite (`items_comp`), the generator loop that
yields one value per item (`map_loop`, `forIn_map`), and a rename map as a dict (`mapPV`). -/

namespace Df.Tie
open Df Df.Py

def embVal : Val → PV
  | .null => .none
  | .bool b => .bool b
  | .int i => .int i
  | .str s => .str s
  | .dec m e => .opaque "dec" (toString m ++ "e" ++ toString e)
  | .other t r => .opaque t r

@[simp] theorem embVal_null : embVal .null = .none := rfl
@[simp] theorem embVal_bool (b : Bool) : embVal (.bool b) = .bool b := rfl
@[simp] theorem embVal_int (i : Int) : embVal (.int i) = .int i := rfl
@[simp] theorem embVal_str (s : String) : embVal (.str s) = .str s := rfl

def dsFieldPV (f : Field) : PV := .dict [(.str "name", .str f.name), (.str "type", .str f.type)]

variable (emb : Val → PV)

def rowPV (r : Row) : PV := .dict (r.map (fun kv => (PV.str kv.1, emb kv.2)))

def pairPV (kv : String × Val) : PV := .tuple [.str kv.1, emb kv.2]

theorem lookup_str (r : Row) (k : String) :
    PV.lookup (.str k) (r.map (fun kv => (PV.str kv.1, emb kv.2))) = (Row.get? r k).map emb := by
  induction r with
  | nil => simp [PV.lookup, Row.get?]
  | cons kv rest ih =>
    obtain ⟨k', v⟩ := kv
    simp only [List.map_cons, PV.lookup, PV.beq, Row.get?, ih]
    by_cases h : k' = k <;> simp [h]

theorem opGet_rowPV (hnull : emb Val.null = .none) (r : Row) (k : String) :
    opGet [rowPV emb r, .str k] = .ok (emb (Row.getD r k)) := by
  simp only [opGet, rowPV, lookup_str, Row.getD]
  cases Row.get? r k <;> simp [hnull]

theorem getitem_row (r : Row) (k : String) : Refines emb (Row.index r k) (opGetitem [rowPV emb r, .str k]) := by
  simp only [opGetitem, rowPV, lookup_str, Row.index]
  cases Row.get? r k with
  | none => trivial
  | some v => exact rfl

theorem dset_str (r : Row) (k : String) (v : Val) :
    PV.dset (.str k) (emb v) (r.map (fun kv => (PV.str kv.1, emb kv.2))) = (Row.set r k v).map (fun kv => (PV.str kv.1, emb kv.2)) := by
  induction r with
  | nil => simp [PV.dset, Row.set]
  | cons kv rest ih =>
    obtain ⟨k', v'⟩ := kv
    simp only [List.map_cons, PV.dset, PV.beq, Row.set, ih]
    by_cases h : k' = k
    · subst h; simp
    · simp [h]

theorem setitem_row (acc : Row) (k : String) (v : Val) :
    mutate "setitem" (rowPV emb acc) [.str k, emb v] = .ok (rowPV emb (Row.set acc k v)) := by
  simp only [mutate, rowPV, dset_str]

theorem pairsToDict_emb (ps : List (String × Val)) (acc : Row) :
    pairsToDict (ps.map (pairPV emb)) (acc.map (fun kv => (PV.str kv.1, emb kv.2)))
      = .ok ((ps.foldl (fun a p => Row.set a p.1 p.2) acc).map (fun kv => (PV.str kv.1, emb kv.2))) := by
  induction ps generalizing acc with
  | nil => simp [pairsToDict]
  | cons p rest ih =>
    simp only [List.map_cons, pairPV, pairsToDict, List.foldl_cons, dset_str]
    exact ih _

theorem opDict_emb (ps : List (String × Val)) :
    opDict [.list (ps.map (pairPV emb))] = .ok (rowPV emb (Row.ofPairs ps)) := by
  have := pairsToDict_emb emb ps []
  simp only [List.map_nil] at this
  simp [opDict, iterOf, bind, Except.bind, this, Except.map, rowPV, Row.ofPairs]

theorem set_absent (acc : Row) (p : String × Val) (h : ∀ a ∈ acc, a.1 ≠ p.1) : Row.set acc p.1 p.2 = acc ++ [p] := by
  induction acc with
  | nil => simp [Row.set]
  | cons a as ih => simp [Row.set, h a (by simp), ih fun b hb => h b (by simp [hb])]

theorem foldl_set_nodup (ps : Row) : ∀ (acc : Row), ((acc ++ ps).map Prod.fst).Nodup →
    ps.foldl (fun a p => Row.set a p.1 p.2) acc = acc ++ ps := by
  induction ps with
  | nil => intro acc _; simp
  | cons p rest ih =>
    intro acc h
    have hp : ∀ a ∈ acc, a.1 ≠ p.1 := fun a ha =>
      (List.nodup_append.mp (List.map_append ▸ h)).2.2 a.1 (List.mem_map_of_mem ha) p.1 (by simp)
    rw [List.foldl_cons, set_absent acc p hp, ih _ (by simpa using h), List.append_assoc]; rfl

theorem ofPairs_nodup (ps : Row) (h : (ps.map Prod.fst).Nodup) : Row.ofPairs ps = ps :=
  foldl_set_nodup ps [] h

theorem compLoop_filterMap {α} (body : PV → Except Err (Option PV)) (g : α → PV) (h : α → Option PV)
    (hb : ∀ a, body (g a) = .ok (h a)) (xs : List α) (acc : List PV) :
    compLoop .list body (xs.map g) acc = .ok (.list (acc ++ xs.filterMap h)) := by
  induction xs generalizing acc with
  | nil => simp [compLoop]
  | cons a rest ih =>
    simp only [List.map_cons, compLoop, hb, bind, Except.bind, List.filterMap_cons]
    cases h a with
    | none => exact ih acc
    | some r => simp only []; rw [ih]; simp [List.append_assoc]

theorem filterMap_ite {α β} (c : α → Bool) (g : α → β) (xs : List α) :
    xs.filterMap (fun a => if c a then some (g a) else none) = (xs.filter c).map g :=
  (List.filterMap_filter (f := some ∘ g)).symm.trans (congrFun List.filterMap_eq_map _)

theorem items_comp_g (ext : Ext) (env : Env) (elt cond : E) (f : String → String) (c : String × Val → Bool)
    (helt : ∀ (k : String) (v : Val), c (k, v) = true → evalE ext (("v", emb v) :: ("k", .str k) :: env) elt = .ok (.str (f k)))
    (hcond : ∀ (k : String) (v : Val), (evalE ext (("v", emb v) :: ("k", .str k) :: env) cond).map PV.truthy = .ok (c (k, v)))
    (r : Row) (hrow : env.get "row" = .ok (rowPV emb r)) :
    evalE ext env (.comp2 .list (.call .mkTuple (.cons elt (.cons (.var "v") .nil))) "k" "v" (.call .items (.cons (.var "row") .nil)) cond)
    = .ok (.list ((r.filter c).map (fun kv => pairPV emb (f kv.1, kv.2)))) := by
  have hit : opItems [rowPV emb r] = .ok (.list (r.map (fun kv => PV.tuple [.str kv.1, emb kv.2]))) := by
    simp [opItems, rowPV, List.map_map, Function.comp_def]
  rw [evalE, evalE_items hrow, hit]
  simp only [iterOf, bind, Except.bind]
  rw [compLoop_filterMap _ (fun kv : String × Val => PV.tuple [.str kv.1, emb kv.2])
    (fun kv => if c kv then some (pairPV emb (f kv.1, kv.2)) else Option.none)
    (by
      rintro ⟨k, v⟩
      have hc := hcond k v
      simp only [Env.set]
      cases hcv : evalE ext (("v", emb v) :: ("k", PV.str k) :: env) cond with
      | error e => rw [hcv] at hc; simp [Except.map] at hc
      | ok cv =>
        rw [hcv] at hc
        simp only [Except.map, Except.ok.injEq] at hc
        cases hck : c (k, v) with
        | false => simp [hc, hck, pure, Except.pure]
        | true =>
          simp [hc, hck, evalE, evalArgs, helt k v hck, applyFn, builtinOp, opMkTuple, get_cons, bind, Except.bind, pure, Except.pure,
            pairPV]),
    List.nil_append, filterMap_ite c]

/-- `[ (elt k, v) for k, v in row.items() if cond k ]` over an embedded row: the pairs whose key passes, the key rewritten -/
theorem items_comp (ext : Ext) (env : Env) (elt cond : E) (f : String → String) (c : String → Bool)
    (helt : ∀ (k : String) (v : PV), evalE ext (("v", v) :: ("k", .str k) :: env) elt = .ok (.str (f k)))
    (hcond : ∀ (k : String) (v : PV), (evalE ext (("v", v) :: ("k", .str k) :: env) cond).map PV.truthy = .ok (c k))
    (r : Row) (hrow : env.get "row" = .ok (rowPV emb r)) :
    evalE ext env (.comp2 .list (.call .mkTuple (.cons elt (.cons (.var "v") .nil))) "k" "v" (.call .items (.cons (.var "row") .nil)) cond)
    = .ok (.list ((r.filter (fun kv => c kv.1)).map (fun kv => pairPV emb (f kv.1, kv.2)))) :=
  items_comp_g emb ext env elt cond f (fun kv => c kv.1) (fun k v _ => helt k (emb v)) (fun k v => hcond k (emb v)) r hrow

theorem map_loop {α} (ext : Ext) (x : String) (body : S) (g embA : α → PV) (P : Env → Prop) (xs : List α) :
    (∀ a, a ∈ xs → ∀ env out, P env → ∃ env', exec ext body { env := (x, embA a) :: env, out := out }
        = .ok (.next, { env := env', out := out ++ [g a] }) ∧ P env') →
    ∀ (st : St), P st.env →
      ∃ st', loopFor (exec ext body) (bind1 x) (xs.map embA) st = .ok (.next, st') ∧ st'.out = st.out ++ xs.map g := by
  intro hstep st h
  have := loopFor_map (Q := Eq) (β := α) (body := exec ext body) (bnd := bind1 x) embA pure g P xs
    (fun a ha env out hP => let ⟨_, he, hP'⟩ := hstep a ha env out hP; Runs.ok he hP') st.env st.out h
  rw [List.mapM_pure, List.map_id'] at this
  obtain ⟨env', he, -⟩ := this.of_ok
  exact ⟨_, he, rfl⟩

def namesPV (names : List String) : PV := .list (names.map PV.str)
def nameSetPV (names : List String) : PV := .set (names.map PV.str)

theorem forIn_map {α} (ext : Ext) (x it : String) (body : S) (g embA : α → PV) (P : Env → Prop) (xs : List α) (st : St)
    (hit : (st.env.get it).bind iterLazy = .ok (xs.map embA, none)) (hP : P st.env)
    (hstep : ∀ a, a ∈ xs → ∀ env out, P env → ∃ env', exec ext body { env := (x, embA a) :: env, out := out }
        = .ok (.next, { env := env', out := out ++ [g a] }) ∧ P env') :
    (exec ext (.forIn x (.var it) body) st).map (fun r => r.2.out) = .ok (st.out ++ xs.map g) := by
  obtain ⟨st', h1, h2⟩ := map_loop ext x body g embA P xs hstep st hP
  rw [exec_forIn_var _ _ _ _ _ _ hit, h1, ← h2]; rfl

def mapPV (mp : List (String × String)) : PV := .dict (mp.map (fun ab => (PV.str ab.1, PV.str ab.2)))

theorem lookup_mapPV (mp : List (String × String)) (k : String) :
    PV.lookup (.str k) (mp.map (fun ab => (PV.str ab.1, PV.str ab.2))) = (lookupStr mp k).map PV.str := by
  induction mp with
  | nil => simp [PV.lookup, lookupStr]
  | cons ab rest ih =>
    obtain ⟨a, b⟩ := ab
    simp only [List.map_cons, PV.lookup, PV.beq, lookupStr, ih]
    by_cases h : a = k <;> simp [h]

end Df.Tie
