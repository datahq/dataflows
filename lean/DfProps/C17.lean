import DfProps.Util

/-!
# C17 — filter_rows, deduplicate and unpivot neither lose nor invent data
-/

namespace Df

/-! ## filter_rows -/

/-- `filter_rows` emits exactly the subsequence of rows satisfying its condition: when the
condition evaluates on every row (no `KeyError`), the result is `List.filter`. -/
theorem C17_filter_eq_filter (c : Row → Except Err Bool) (p : Row → Bool) :
    ∀ rows : List Row, (∀ r ∈ rows, c r = .ok (p r)) → filterM c rows = .ok (rows.filter p) := by
  intro rows
  induction rows with
  | nil => intro _; rfl
  | cons r rs ih =>
    intro h
    simp only [List.forall_mem_cons] at h
    simp only [filterM, h.1, ih h.2, Except.ok_bind, List.filter]
    cases p r <;> rfl

theorem filterM_ok (c : Row → Except Err Bool) : ∀ {rows out : List Row}, filterM c rows = .ok out →
    out = rows.filter (fun r => (c r).toOption.getD false)
  | [], out, h => by cases h; rfl
  | r :: rs, out, h => by
    simp only [filterM, Except.bind_eq_ok, Except.pure_eq_ok] at h
    obtain ⟨b, hb, rs', hrs', rfl⟩ := h
    rw [List.filter_cons, hb, ← filterM_ok c hrs']
    cases b <;> rfl

/-- whatever the condition does, a successful run yields a sub-sequence (order kept, nothing
invented), and it contains exactly the rows on which the condition returned true -/
theorem C17_filter_subseq (c : Row → Except Err Bool) :
    ∀ rows out, filterM c rows = .ok out →
      out.Sublist rows ∧ (∀ r ∈ out, c r = .ok true) ∧ (∀ r ∈ rows, c r = .ok true → r ∈ out) := by
  intro rows out h
  cases filterM_ok c h
  have hc : ∀ r, (c r).toOption.getD false = true ↔ c r = .ok true := fun r => by
    cases c r <;> simp [Except.toOption]
  exact ⟨List.filter_sublist, fun r hr => (hc r).mp (List.mem_filter.mp hr).2,
    fun r hr h => List.mem_filter.mpr ⟨hr, (hc r).mpr h⟩⟩

/-- `anyEq` (`q = pyEq`) and `anyNe` (`q = ¬ pyEq`) are the same loop: when every mentioned field is
present no `KeyError` is reached and the loop is `List.any` -/
theorem anyLoop_ok (row : Row) (q : Val → Val → Bool) (F : List (String × Val) → Except Err Bool)
    (hnil : F [] = .ok false)
    (hcons : ∀ k v rest, F ((k, v) :: rest) = Row.index row k >>= fun x => if q x v then pure true else F rest) :
    ∀ l : List (String × Val), (∀ kv ∈ l, (Row.get? row kv.1).isSome) →
      F l = .ok (l.any (fun kv => q (Row.getD row kv.1) kv.2))
  | [], _ => hnil
  | (k, v) :: rest, h => by
    simp only [List.forall_mem_cons] at h
    obtain ⟨x, hx⟩ := Option.isSome_iff_exists.mp h.1
    simp only [hcons, Row.index_eq_ok.mpr hx, List.any_cons, Row.getD_of_get? hx,
      anyLoop_ok row q F hnil hcons rest h.2, bind, Except.bind]
    cases q x v <;> rfl

/-- old-style conditions: the row passes iff some `equals` pair holds or some `not_equals`
pair fails (any-of semantics), whenever every mentioned field is present in the row -/
theorem C17_old_style_semantics (row : Row) (eqs nes : List (String × Val))
    (hpres : ∀ kv ∈ eqs ++ nes, (Row.get? row kv.1).isSome) :
    oldStyleCond eqs nes row =
      .ok (eqs.any (fun kv => (Row.getD row kv.1).pyEq kv.2) || nes.any (fun kv => !((Row.getD row kv.1).pyEq kv.2))) := by
  simp only [List.forall_mem_append] at hpres
  have h1 := anyLoop_ok row Val.pyEq (anyEq row) rfl (fun _ _ _ => rfl) eqs hpres.1
  have h2 := anyLoop_ok row (fun x v => !x.pyEq v) (anyNe row) rfl (fun _ _ _ => rfl) nes hpres.2
  simp only [oldStyleCond, h1, h2, Except.ok_bind]
  cases eqs.any (fun kv => (Row.getD row kv.1).pyEq kv.2) <;> rfl

/-! ## deduplicate -/

/-- the key of a row in total form: what `keyOf` returns whenever it succeeds (`keyOf_ok_eq`) -/
def keyOfD (pk : List String) (r : Row) : List Val := pk.map (fun k => Row.getD r k)

theorem keyOf_ok_eq (pk : List String) (r : Row) (k : List Val) (h : keyOf pk r = .ok k) :
    k = keyOfD pk r := by
  induction pk generalizing k with
  | nil => simpa [keyOf, keyOfD, pure, Except.pure] using h.symm
  | cons a as ih =>
    simp only [keyOf, List.mapM_cons, Except.bind_eq_ok, Except.pure_eq_ok, Row.index_eq_ok] at h
    obtain ⟨v, hv, vs, hvs, rfl⟩ := h
    rw [ih vs hvs]
    simp [keyOfD, Row.getD_of_get? hv]

theorem dedupLoop_cons_ok {pk : List String} {r : Row} {rs : List Row} {seen : List (List Val)} {out : List Row}
    (h : dedupLoop pk (r :: rs) seen = .ok out) : keyOf pk r = .ok (keyOfD pk r) ∧
      if seen.any (keyEq (keyOfD pk r)) then dedupLoop pk rs seen = .ok out
      else ∃ rest, dedupLoop pk rs (keyOfD pk r :: seen) = .ok rest ∧ out = r :: rest := by
  simp only [dedupLoop, Except.bind_eq_ok] at h
  obtain ⟨k, hk, h⟩ := h
  cases keyOf_ok_eq pk r k hk
  refine ⟨hk, ?_⟩
  split at h
  · rwa [if_pos ‹_›]
  · rw [if_neg ‹_›]
    simp only [Except.bind_eq_ok, Except.pure_eq_ok] at h
    exact h.imp fun _ h => ⟨h.1, h.2.symm⟩

/-- Invariant of the de-duplication loop with an arbitrary `seen` set: the output is a
sub-sequence; no emitted key is in `seen` or equals an earlier emitted key; every input row's
key is in `seen` or equals (as Python compares tuples) the key of an emitted row. -/
theorem dedupLoop_inv (pk : List String) :
    ∀ rows seen out, dedupLoop pk rows seen = .ok out →
      out.Sublist rows ∧
      (∀ r ∈ out, seen.any (keyEq (keyOfD pk r)) = false) ∧
      out.Pairwise (fun a b => keyEq (keyOfD pk b) (keyOfD pk a) = false) ∧
      (∀ r ∈ rows, seen.any (keyEq (keyOfD pk r)) = true ∨ ∃ o ∈ out, (r = o ∨ keyEq (keyOfD pk r) (keyOfD pk o) = true)) := by
  intro rows
  induction rows with
  | nil => intro seen out h; cases h; simp
  | cons r rs ih =>
    intro seen out h
    obtain ⟨-, h⟩ := dedupLoop_cons_ok h
    split at h
    · rename_i hs
      obtain ⟨hsub, hns, hpw, hcov⟩ := ih seen out h
      exact ⟨hsub.cons r, hns, hpw, List.forall_mem_cons.mpr ⟨Or.inl hs, hcov⟩⟩
    · rename_i hs
      obtain ⟨rest, hrest, rfl⟩ := h
      obtain ⟨hsub, hns, hpw, hcov⟩ := ih _ rest hrest
      simp only [List.any_cons, Bool.or_eq_false_iff, Bool.or_eq_true] at hns hcov
      refine ⟨hsub.cons_cons r, ?_, hpw.cons fun x hx => (hns x hx).1, ?_⟩
      · intro x hx
        rcases List.mem_cons.mp hx with rfl | hx
        · exact Bool.eq_false_iff.mpr hs
        · exact (hns x hx).2
      · intro x hx
        rcases List.mem_cons.mp hx with rfl | hx
        · exact Or.inr ⟨x, List.mem_cons_self, Or.inl rfl⟩
        · rcases hcov x hx with (h1 | h1) | ⟨o, ho, hoe⟩
          · exact Or.inr ⟨r, List.mem_cons_self, Or.inr h1⟩
          · exact Or.inl h1
          · exact Or.inr ⟨o, List.mem_cons_of_mem _ ho, hoe⟩

/-- deduplicate emits, in order, rows with pairwise distinct primary keys, covering every key
of the input; nothing is invented -/
theorem C17_dedupe_first (pk : List String) (rows out : List Row) (h : dedupLoop pk rows [] = .ok out) :
    out.Sublist rows ∧
    out.Pairwise (fun a b => keyEq (keyOfD pk b) (keyOfD pk a) = false) ∧
    (∀ r ∈ rows, ∃ o ∈ out, (r = o ∨ keyEq (keyOfD pk r) (keyOfD pk o) = true)) := by
  obtain ⟨hsub, _, hpw, hcov⟩ := dedupLoop_inv pk rows [] out h
  exact ⟨hsub, hpw, fun r hr => (hcov r hr).resolve_left (by simp)⟩

theorem dedupLoop_idem (pk : List String) : ∀ rows seen out, dedupLoop pk rows seen = .ok out →
    dedupLoop pk out seen = .ok out := by
  intro rows
  induction rows with
  | nil => intro seen out h; cases h; rfl
  | cons r rs ih =>
    intro seen out h
    obtain ⟨hk, h⟩ := dedupLoop_cons_ok h
    split at h
    · exact ih seen out h
    · rename_i hs
      obtain ⟨rest, hrest, rfl⟩ := h
      simp [dedupLoop, hk, hs, ih _ rest hrest, bind, Except.bind, pure, Except.pure]

/-- applying deduplicate twice changes nothing -/
theorem C17_dedupe_idempotent (pk : List String) (rows out : List Row)
    (h : dedupLoop pk rows [] = .ok out) : dedupLoop pk out [] = .ok out :=
  dedupLoop_idem pk rows [] out h

/-- without a primary key deduplicate is the identity -/
theorem C17_dedupe_no_pk (r : Res) (h : r.pk = []) : dedupRes r = .ok r := by
  simp [dedupRes, h]

/-! ## unpivot -/

/-- For each input row: one output row per unpivoted field, in the order the specification
selects them, holding that cell's value under the value column -/
theorem C17_unpivot_row_shape (confs : List UnpivotConf) (keep : List String) (vn : String) (row : Row)
    (out : List Row) (h : unpivotRow confs keep vn row = .ok out) :
    out.length = confs.length ∧
    ∀ (i : Nat) (c : UnpivotConf) (o : Row), confs[i]? = some c → out[i]? = some o →
      Row.get? o vn = some (Row.getD row c.field) := by
  refine ⟨mapM_ok_length h, fun i c o hc ho => ?_⟩
  obtain ⟨_, ho', this⟩ := mapM_ok_getElem? h hc
  cases ho.symm.trans ho'
  simp only [Except.bind_eq_ok, Except.pure_eq_ok] at this
  obtain ⟨kept, -, rfl⟩ := this
  exact Row.get?_set_eq _ _ _

/-- no cell is lost or invented: the number of output rows is (#rows × #unpivoted fields) -/
theorem C17_unpivot_count (confs : List UnpivotConf) (keep : List String) (vn : String) :
    ∀ (rows : List Row) (outs : List (List Row)), rows.mapM (unpivotRow confs keep vn) = .ok outs →
      outs.flatten.length = rows.length * confs.length :=
  fun _ _ => mapM_ok_flatten_length fun r o hr => (C17_unpivot_row_shape confs keep vn r o hr).1

/-- the partition of the package phase is a partition: the unpivoted and the kept names together are
the field names, each as often as before -/
theorem unpivotPartition_perm (O : ReOracle) (regex : Bool) : ∀ (us : List UnpivotField) (fields : List Field),
    ((unpivotPartition O regex us fields).1.map (·.field) ++ (unpivotPartition O regex us fields).2.map Field.name).Perm
      (fields.map Field.name)
  | [], fields => by simp [unpivotPartition]
  | u :: us, fields => by
    simp only [unpivotPartition, List.map_append, List.map_map, List.append_assoc]
    exact ((unpivotPartition_perm O regex us _).append_left _).trans
      (List.map_append ▸ (List.filter_append_perm _ fields).map Field.name)

/-- the partition of the package phase loses no field: every field is either kept or
unpivoted, never both -/
theorem C17_unpivot_partition (O : ReOracle) (regex : Bool) :
    ∀ (us : List UnpivotField) (fields : List Field),
      ((unpivotPartition O regex us fields).1.map (·.field)).length + (unpivotPartition O regex us fields).2.length
        = fields.length := by
  intro us fields
  simpa using (unpivotPartition_perm O regex us fields).length_eq

example : (dedupLoop ["k"] [[("k", .int 1), ("v", .str "a")], [("k", .bool true), ("v", .str "b")],
    [("k", .int 2), ("v", .str "c")]] []).toOption.map List.length = some 2 := by decide

end Df
