import DfModel.Join
import DfProps.Util

/-!
# C11 — join computes the relational join with the documented aggregates

The indexer is a keyed fold: under each rendered key it holds the aggregation states after exactly
the source rows with that key; finalised, they are the documented aggregates, so the rows emitted
per target row and per source key are those of the relational join.
-/

namespace Df.Join

/-! ## A. each incremental aggregator equals its definition -/

/-- feeding values one by one from a state, as the indexer does -/
def feedFrom (a : Agg) (st : Option AS) (vals : List Val) : Option AS :=
  vals.foldl (fun st v => some (aggStep a st v)) st

def feed (a : Agg) (vals : List Val) : Option AS := feedFrom a none vals

theorem feedFrom_cons (a : Agg) (st : Option AS) (v : Val) (vs : List Val) :
    feedFrom a st (v :: vs) = feedFrom a (some (aggStep a st v)) vs := rfl

theorem feedFrom_nil (a : Agg) (st : Option AS) : feedFrom a st [] = st := rfl

/-- **The fold lemma.** If the states `φ b` are closed under `aggStep a`, which acts on them as
`g` acts on `b`, then feeding values from `φ b` is folding `g` from `b`.  After its first value
every aggregator is in such a family of states, with `H` true by computation (`rfl`, or
commutativity of `+`); the specifications are left folds too, so that what remains to be shown
(`hc`) is a fact about lists, if anything. -/
theorem feedFrom_hom {β} (a : Agg) (φ : β → AS) (g : β → Val → β)
    (H : ∀ b v, aggStep a (some (φ b)) v = φ (g b v)) (vals : List Val) (b : β) {c : β}
    (hc : vals.foldl g b = c) : feedFrom a (some (φ b)) vals = some (φ c) :=
  hc ▸ List.foldl_hom (fun b => some (φ b)) fun b v => congrArg some (H b v)

theorem foldl_snoc {α} (l acc : List α) : l.foldl (fun acc x => acc ++ [x]) acc = acc ++ l := by
  rw [List.foldl_append_eq_append, ← List.flatMap_def, List.flatMap_singleton']

theorem foldl_fixed {α β} (l : List β) (b : α) : l.foldl (fun c _ => c) b = b := by
  induction l with
  | nil => rfl
  | cons _ _ ih => exact ih

theorem getLast?_cons_eq_foldl {α} (l : List α) (b : α) :
    (b :: l).getLast? = some (l.foldl (fun _ x => x) b) := by
  induction l generalizing b with
  | nil => rfl
  | cons x xs ih => exact ih x

theorem foldl_count_sum {α} (f : α → Int) (l : List α) (n : Nat) (s : Int) :
    l.foldl (fun p x => (p.1 + 1, p.2 + f x)) (n, s) = (l.length + n, l.foldl (fun s x => s + f x) s) := by
  induction l generalizing n s with
  | nil => rw [List.length_nil, Nat.zero_add]; rfl
  | cons x xs ih => rw [List.foldl_cons, ih, List.length_cons, Nat.add_right_comm, Nat.add_assoc]; rfl

theorem dedupV_eq_foldl (vals acc : List Val) :
    dedupV acc vals = vals.foldl (fun acc x => if acc.contains x then acc else acc ++ [x]) acc := by
  induction vals generalizing acc with
  | nil => rfl
  | cons x xs ih => exact ih _

theorem sumInts_cons (v : Val) (vs : List Val) :
    sumInts (v :: vs) = vs.foldl (fun s x => s + intOf x) (intOf v) := by
  rw [sumInts, List.map_cons, List.foldl_cons, List.foldl_map, Int.zero_add]

theorem C11_array (vals : List Val) : finalise .array (feed .array vals) = aggSpec .array vals vals.length := by
  cases vals with
  | nil => rfl
  | cons v vs =>
    exact congrArg (finalise .array) (feedFrom_hom .array .list _ (fun _ _ => rfl) vs [v] (foldl_snoc vs [v]))

theorem C11_median (vals : List Val) : finalise .median (feed .median vals) = aggSpec .median vals vals.length := by
  cases vals with
  | nil => rfl
  | cons v vs =>
    show _ = medianOf (v :: vs)
    exact congrArg (finalise .median) (feedFrom_hom .median .list _ (fun _ _ => rfl) vs [v] (foldl_snoc vs [v]))

theorem C11_set (vals : List Val) : finalise .set (feed .set vals) = aggSpec .set vals vals.length := by
  cases vals with
  | nil => rfl
  | cons v vs =>
    exact congrArg (finalise .set)
      (feedFrom_hom .set .list _ (fun _ _ => rfl) vs [v] (dedupV_eq_foldl vs [v]).symm)

theorem C11_counters (vals : List Val) : finalise .counters (feed .counters vals) = aggSpec .counters vals vals.length := by
  cases vals with
  | nil => rfl
  | cons v vs =>
    exact congrArg (finalise .counters) (feedFrom_hom .counters .counts bump (fun _ _ => rfl) vs [(v, 1)] rfl)

theorem C11_max (vals : List Val) : finalise .max (feed .max vals) = aggSpec .max vals vals.length := by
  cases vals with
  | nil => rfl
  | cons v vs => exact congrArg (finalise .max) (feedFrom_hom .max .v _ (fun _ _ => rfl) vs v rfl)

theorem C11_min (vals : List Val) : finalise .min (feed .min vals) = aggSpec .min vals vals.length := by
  cases vals with
  | nil => rfl
  | cons v vs => exact congrArg (finalise .min) (feedFrom_hom .min .v _ (fun _ _ => rfl) vs v rfl)

theorem C11_first (vals : List Val) : finalise .first (feed .first vals) = aggSpec .first vals vals.length := by
  cases vals with
  | nil => rfl
  | cons v vs =>
    exact congrArg (finalise .first) (feedFrom_hom .first .v _ (fun _ _ => rfl) vs v (foldl_fixed vs v))

theorem C11_last (vals : List Val) : finalise .last (feed .last vals) = aggSpec .last vals vals.length := by
  cases vals with
  | nil => rfl
  | cons v vs =>
    show _ = ((v :: vs).getLast?).elim (AV.v .null) AV.v
    rw [getLast?_cons_eq_foldl]
    exact congrArg (finalise .last) (feedFrom_hom .last .v _ (fun _ _ => rfl) vs v rfl)

theorem C11_any (vals : List Val) : finalise .any (feed .any vals) = aggSpec .any vals vals.length := by
  cases vals with
  | nil => rfl
  | cons v vs =>
    show _ = ((v :: vs).getLast?).elim (AV.v .null) AV.v
    rw [getLast?_cons_eq_foldl]
    exact congrArg (finalise .any) (feedFrom_hom .any .v _ (fun _ _ => rfl) vs v rfl)

/-- `count` counts the matching rows (every row feeds a dummy value) -/
theorem C11_count (vals : List Val) : finalise .count (feed .count vals) = aggSpec .count [] vals.length := by
  cases vals with
  | nil => rfl
  | cons v vs =>
    show _ = if vs.length + 1 = 0 then AV.v .null else .v (.int (vs.length + 1 : Nat))
    rw [if_neg (Nat.succ_ne_zero _)]
    exact congrArg (finalise .count) (feedFrom_hom .count (fun p : Nat × Int => .avg p.1 p.2)
      (fun p _ => (p.1 + 1, p.2 + 0)) (fun _ _ => congrArg (AS.avg _) (Int.add_zero _).symm) vs (1, 0)
      (foldl_count_sum (fun _ => 0) vs 1 0))

theorem C11_avg (vals : List Val) : finalise .avg (feed .avg vals) = aggSpec .avg vals vals.length := by
  cases vals with
  | nil => rfl
  | cons v vs =>
    show _ = AV.quot (sumInts (v :: vs)) (vs.length + 1)
    rw [sumInts_cons]
    exact congrArg (finalise .avg) (feedFrom_hom .avg (fun p : Nat × Int => .avg p.1 p.2)
      (fun p x => (p.1 + 1, p.2 + intOf x)) (fun _ _ => congrArg (AS.avg _) (Int.add_comm ..)) vs (1, intOf v)
      (foldl_count_sum intOf vs 1 _))

/-- `sum` of one value is that value; of several (integers) their sum -/
theorem C11_sum (vals : List Val) : finalise .sum (feed .sum vals) = aggSpec .sum vals vals.length := by
  match vals with
  | [] => rfl
  | [x] => rfl
  | x :: y :: rest =>
    show _ = AV.v (.int (sumInts (x :: y :: rest)))
    rw [sumInts_cons, List.foldl_cons, Int.add_comm]
    exact congrArg (finalise .sum) (feedFrom_hom .sum (fun i => .v (.int i)) _
      (fun _ _ => congrArg (AS.v ∘ .int) (Int.add_comm ..)) rest _ rfl)

theorem C11_agg : ∀ (a : Agg) (vals : List Val), finalise a (feed a vals) = aggSpec a vals vals.length
  | .sum => C11_sum
  | .avg => C11_avg
  | .median => C11_median
  | .max => C11_max
  | .min => C11_min
  | .first => C11_first
  | .last => C11_last
  | .count => C11_count
  | .any => C11_any
  | .set => C11_set
  | .array => C11_array
  | .counters => C11_counters

theorem aggSpec_nrows {a : Agg} (h : a ≠ .count) (vals : List Val) (n m : Nat) :
    aggSpec a vals n = aggSpec a vals m := by
  cases a <;> first | rfl | exact absurd rfl h

/-! ## B. the index holds, per key, the fold over exactly the rows rendering that key -/

def rowNew (fs : FieldSpec) (r : Row) : Val := if fs.agg = .count then Val.str "" else Row.getD r fs.source

def stepState (fs : FieldSpec) (st : Option AS) (r : Row) : Option AS :=
  if rowNew fs r = .null then st else some (aggStep fs.agg st (rowNew fs r))

/-- the state of one output field after the given (matching) rows, in order -/
def stateFrom (fs : FieldSpec) (st : Option AS) (ms : List Row) : Option AS := ms.foldl (stepState fs) st

def statesOf (fields : List FieldSpec) (ms : List Row) : List (String × Option AS) :=
  fields.map (fun fs => (fs.target, stateFrom fs none ms))

theorem idxGet_idxSet (ix : Index) (k q : String) (v) : idxGet (idxSet ix k v) q = if k = q then some v else idxGet ix q :=
  get_put_of_eqns (fun _ _ _ _ => rfl) (fun _ _ => rfl) (fun _ _ _ _ _ => rfl) ix k q v

theorem stGet_map (fields : List FieldSpec) (g : FieldSpec → Option AS) (hnd : (fields.map (·.target)).Nodup) :
    ∀ fs ∈ fields, stGet (fields.map (fun x => (x.target, g x))) fs.target = g fs := by
  induction fields with
  | nil => intro fs h; simp at h
  | cons f rest ih =>
    intro fs hfs
    simp only [List.map_cons, List.nodup_cons] at hnd
    simp only [List.mem_cons] at hfs
    rcases hfs with rfl | hfs
    · simp [stGet]
    · have hne : f.target ≠ fs.target := by
        intro he; apply hnd.1; simp only [List.mem_map]; exact ⟨fs, hfs, he.symm⟩
      simp only [List.map_cons, stGet, hne, if_false]
      exact ih hnd.2 fs hfs

theorem stGet_nil (f : String) : stGet [] f = none := rfl

/-- the value stored under a key, as a function of the rows that rendered it so far -/
def stored (fields : List FieldSpec) (ms : List Row) : Option (List (String × Option AS)) :=
  if ms = [] then none else some (statesOf fields ms)

theorem stored_snoc {fields : List FieldSpec} (hnd : (fields.map (·.target)).Nodup) (pre : List Row) (r : Row) :
    some (fields.map fun fs => (fs.target, stepState fs (stGet ((stored fields pre).getD []) fs.target) r)) =
      stored fields (pre ++ [r]) := by
  refine .trans (congrArg some (List.map_congr_left fun fs hfs => ?_))
    (if_neg (List.append_ne_nil_of_right_ne_nil _ (List.cons_ne_nil _ _))).symm
  -- what is stored for `pre` holds, under `fs.target`, the state of `fs` after `pre`
  have : stGet ((stored fields pre).getD []) fs.target = stateFrom fs none pre := by
    cases pre with
    | nil => rfl
    | cons r rs => exact stGet_map fields (fun x => stateFrom x none (r :: rs)) hnd fs hfs
  rw [this, stateFrom, stateFrom, List.foldl_append]; rfl

/-- **Keyed fold.** Folding updates `ix[key x] := u ix[key x] x` into an index leaves, under each
key, the fold of `u` over the elements with that key. -/
theorem idxGet_foldl_idxSet {α} (key : α → String) (u : Option (List (String × Option AS)) → α → List (String × Option AS))
    (k : String) (l : List α) (ix : Index) :
    idxGet (l.foldl (fun ix x => idxSet ix (key x) (u (idxGet ix (key x)) x)) ix) k =
      (l.filter (key · = k)).foldl (fun o x => some (u o x)) (idxGet ix k) := by
  induction l generalizing ix with
  | nil => rfl
  | cons x xs ih =>
    rw [List.foldl_cons, ih, List.filter_cons]
    by_cases hk : key x = k
    · rw [if_pos (decide_eq_true hk), List.foldl_cons, ← hk, idxGet_idxSet, if_pos rfl]
    · rw [if_neg (by simpa using hk), idxGet_idxSet, if_neg hk]

/-- **The index groups by rendered key**: after indexing, a key holds the fold over exactly
the source rows that render it, in order — and only keys some row renders are present. -/
theorem C11_index_groups (fields : List FieldSpec) (hnd : (fields.map (·.target)).Nodup) (srcKey : List Seg)
    (source : List Row) (k : String) :
    idxGet (indexAll fields srcKey source) k = stored fields (matching srcKey source k) := by
  refine (idxGet_foldl_idxSet (fun ri : Row × Nat => renderKey srcKey ri.1 ri.2)
    (fun o ri => fields.map fun fs => (fs.target, stepState fs (stGet (o.getD []) fs.target) ri.1)) k _ []).trans ?_
  -- `stored` is a function of the rows seen so far: write the matching rows as the fold that collects
  -- them one by one, and push `stored` through that fold
  rw [matching, ← List.nil_append (List.map ..), ← foldl_snoc, List.foldl_map]
  exact List.foldl_hom (stored fields) (init := []) (g₁ := fun pre (ri : Row × Nat) => pre ++ [ri.1])
    fun pre ri => stored_snoc hnd pre ri.1

theorem stateFrom_eq_feedFrom (fs : FieldSpec) (st : Option AS) (ms : List Row) :
    stateFrom fs st ms = feedFrom fs.agg st ((ms.map (rowNew fs)).filter (· ≠ .null)) := by
  rw [feedFrom, List.foldl_filter, List.foldl_map]
  exact congrArg (List.foldl · st ms) (funext fun st => funext fun r => by simp only [stepState, decide_not, Bool.not_eq_true',
    decide_eq_false_iff_not, ite_not])

theorem finalise_state (fs : FieldSpec) (ms : List Row) :
    finalise fs.agg (stateFrom fs none ms) = aggSpec fs.agg (nonNull ms fs.source) ms.length := by
  rw [stateFrom_eq_feedFrom]
  by_cases hc : fs.agg = .count
  · -- every row contributes the dummy value
    have hvals : (ms.map (rowNew fs)).filter (· ≠ .null) = ms.map fun _ => Val.str "" := by
      rw [show rowNew fs = fun _ => Val.str "" from funext fun _ => if_pos hc]
      exact List.filter_eq_self.2 fun a ha => by obtain ⟨_, _, rfl⟩ := List.mem_map.1 ha; rfl
    rw [hvals, hc]
    exact (C11_count _).trans (by rw [List.length_map]; rfl)
  · rw [show rowNew fs = fun r => Row.getD r fs.source from funext fun _ => if_neg hc]
    exact (C11_agg fs.agg _).trans (aggSpec_nrows hc ..)

theorem extraOf_states (fields : List FieldSpec) (hnd : (fields.map (·.target)).Nodup) (ms : List Row) :
    extraOf fields (statesOf fields ms) = specExtra fields ms :=
  List.map_congr_left fun fs hfs => by
    rw [statesOf, stGet_map fields (fun x => stateFrom x none ms) hnd fs hfs, finalise_state]

/-! ## C. the join modes -/

/-- the row the join emits for one target row -/
def specRow (fields : List FieldSpec) (mode : Mode) (srcKey tgtKey : List Seg) (source : List Row)
    (ri : Row × Nat) : Option OutRow :=
  let ms := matching srcKey source (renderKey tgtKey ri.1 ri.2)
  if ms = [] then
    (if mode = .inner then none
     else some { base := ri.1, extra := fields.map (fun fs => (fs.target, AV.v (Row.getD ri.1 fs.target))) })
  else some { base := ri.1, extra := specExtra fields ms }

theorem foldl_append_toList {α β} (g : α → Option β) (l : List α) (acc : List β) :
    l.foldl (fun acc x => acc ++ (g x).toList) acc = acc ++ l.filterMap g := by
  induction l generalizing acc with
  | nil => exact (List.append_nil acc).symm
  | cons x xs ih => rw [List.foldl_cons, ih, List.filterMap_cons]; cases g x <;> simp

theorem C11_join_spec (fields : List FieldSpec) (hnd : (fields.map (·.target)).Nodup) (mode : Mode)
    (srcKey tgtKey : List Seg) (source target : List Row) :
    (joinTarget fields mode tgtKey (indexAll fields srcKey source) target).1 =
      (target.zipIdx 1).filterMap (specRow fields mode srcKey tgtKey source) := by
  -- the emitted rows are the first component of the fold, and do not depend on the second
  refine (List.foldl_hom Prod.fst (g₂ := fun rows ri => rows ++ (specRow fields mode srcKey tgtKey source ri).toList)
    fun acc ri => ?_).symm.trans (foldl_append_toList ..)
  simp only [C11_index_groups fields hnd, specRow, stored]
  by_cases hm : matching srcKey source (renderKey tgtKey ri.1 ri.2) = []
  · by_cases hi : mode = .inner <;> simp [hm, hi]
  · simp [hm, extraOf_states fields hnd]

/-- inner = half-outer restricted to the matched rows -/
theorem C11_inner_subset (fields : List FieldSpec) (srcKey tgtKey : List Seg) (source : List Row) (ri : Row × Nat)
    (o : OutRow) (h : specRow fields .inner srcKey tgtKey source ri = some o) :
    specRow fields .halfOuter srcKey tgtKey source ri = some o ∧
      matching srcKey source (renderKey tgtKey ri.1 ri.2) ≠ [] := by
  unfold specRow at h ⊢
  by_cases hm : matching srcKey source (renderKey tgtKey ri.1 ri.2) = []
  · rw [if_pos hm] at h; cases h
  · rw [if_neg hm] at h ⊢; exact ⟨h, hm⟩

/-- half-outer keeps every target row, in order -/
theorem C11_half_outer_keeps_all (fields : List FieldSpec) (srcKey tgtKey : List Seg) (source target : List Row) :
    ((target.zipIdx 1).filterMap (specRow fields .halfOuter srcKey tgtKey source)).map (·.base) = target := by
  have h : ∀ ri, (specRow fields .halfOuter srcKey tgtKey source ri).map (·.base) = some ri.1 := fun ri => by
    unfold specRow
    by_cases hm : matching srcKey source (renderKey tgtKey ri.1 ri.2) = []
    · rw [if_pos hm]; rfl
    · rw [if_neg hm]; rfl
  rw [List.map_filterMap, funext h, List.filterMap_eq_map', List.zipIdx_map_fst]

theorem keys_idxSet (ix : Index) (k : String) (v) :
    (idxSet ix k v).map Prod.fst = if k ∈ ix.map Prod.fst then ix.map Prod.fst else ix.map Prod.fst ++ [k] := by
  induction ix with
  | nil => rfl
  | cons e rest ih =>
    obtain ⟨k', v'⟩ := e
    by_cases h : k' = k
    · subst h; simp only [idxSet, List.map_cons, List.mem_cons_self, if_true]
    · simp only [idxSet, if_neg h, List.map_cons, ih, List.mem_cons, Ne.symm h, false_or]; split <;> rfl

theorem indexAll_keys_nodup (fields : List FieldSpec) (srcKey : List Seg) (source : List Row) :
    ((indexAll fields srcKey source).map Prod.fst).Nodup :=
  List.foldlRecOn (motive := fun ix : Index => (ix.map Prod.fst).Nodup) _ _ .nil fun ix h ri _ => by
    rw [indexRow, keys_idxSet]
    split
    · exact h
    · exact nodup_concat h ‹_›

theorem idxGet_eq_some_iff {ix : Index} (h : (ix.map Prod.fst).Nodup) {k : String} {v} :
    idxGet ix k = some v ↔ (k, v) ∈ ix := by
  induction ix with
  | nil => simp [idxGet]
  | cons e rest ih =>
    obtain ⟨k', v'⟩ := e
    rw [List.map_cons, List.nodup_cons] at h
    by_cases hk : k' = k
    · subst hk
      have : ∀ v, (k', v) ∉ rest := fun v hm => h.1 (List.mem_map.2 ⟨(k', v), hm, rfl⟩)
      simp [idxGet, this, eq_comm]
    · simp [idxGet, hk, Ne.symm hk, ih h.2]

/-- **Full-outer / deduplication rows**: every row built from an index entry is the documented
aggregate over exactly the source rows rendering its key, the keys are pairwise distinct (one
row per key), they are keys some source row renders, and (full-outer) none of them was used by a
target row. -/
theorem C11_rows_per_key (fields : List FieldSpec) (hnd : (fields.map (·.target)).Nodup) (srcKey : List Seg)
    (source : List Row) (used : List String) :
    let ix := indexAll fields srcKey source
    ((unmatched fields ix used).map Prod.fst).Nodup ∧ ((dedupRows fields ix).map Prod.fst).Nodup ∧
    (∀ e ∈ unmatched fields ix used, e.1 ∉ used ∧ matching srcKey source e.1 ≠ [] ∧
        e.2 = specExtra fields (matching srcKey source e.1)) ∧
    (∀ e ∈ dedupRows fields ix, matching srcKey source e.1 ≠ [] ∧ e.2 = specExtra fields (matching srcKey source e.1)) ∧
    (∀ k, matching srcKey source k ≠ [] → k ∈ (dedupRows fields ix).map Prod.fst) := by
  intro ix
  have hkeys : (ix.map Prod.fst).Nodup := indexAll_keys_nodup fields srcKey source
  -- an entry of the index is what `idxGet` finds under its key, which `C11_index_groups` describes
  have hentry : ∀ k st, (k, st) ∈ ix →
      matching srcKey source k ≠ [] ∧ extraOf fields st = specExtra fields (matching srcKey source k) := by
    intro k st hm
    have h1 := (idxGet_eq_some_iff hkeys).2 hm
    rw [C11_index_groups fields hnd, stored] at h1
    split at h1
    · cases h1
    · next he => exact ⟨he, Option.some.inj h1 ▸ extraOf_states fields hnd _⟩
  have hmap : ∀ l : Index, (l.map fun kv => (kv.1, extraOf fields kv.2)).map Prod.fst = l.map Prod.fst :=
    fun l => List.map_map
  refine ⟨?_, ?_, ?_, ?_, ?_⟩
  · rw [unmatched, hmap]; exact (List.filter_sublist.map Prod.fst).nodup hkeys
  · rw [dedupRows, hmap]; exact hkeys
  · intro e he
    obtain ⟨⟨k, st⟩, hm, rfl⟩ := List.mem_map.1 he
    have ⟨hm, hu⟩ := List.mem_filter.1 hm
    exact ⟨by simpa using hu, hentry k st hm⟩
  · intro e he
    obtain ⟨⟨k, st⟩, hm, rfl⟩ := List.mem_map.1 he
    exact hentry k st hm
  · intro k hk
    have h1 := C11_index_groups fields hnd srcKey source k
    rw [stored, if_neg hk, idxGet_eq_some_iff hkeys] at h1
    rw [dedupRows, hmap]
    exact List.mem_map.2 ⟨_, h1, rfl⟩

end Df.Join
