import DfProps.TieQueue

/-!
# Tie (C18): one turn of the worker loop of `parallelize` **as written in /repo now**

    while True:
        row = q_in.get()
        if row is None:
            break
        try:
            row_func(row)
        except Exception as e:
            print(pid, 'FAILED TO RUN row_func {}\n'.format(e))
            pass
        q_out.put(row)

The body of the `while` is re-translated from processors/parallelize.py on every run (`Live.Py.par_work_body`; the queues as
values as in `TieFetcher`).  `Tie_work_turn`: a row taken from the input queue is put on the output queue exactly once and the
loop goes on — whether `row_func` returns or raises `Exception` (`RowFunc`; the failure is printed and swallowed: a failing row function does not
lose the row); an end marker leaves the loop and puts nothing (the worker's own end marker is put by the `finally` that follows
the loop).  These are the model's `wGet` / `wPut` steps of a worker (`hold r` → `chRows ++ [f r]`; `gotNone` → `done`), with
one difference of representation: the code transforms the row in place and puts the same object, the model puts `f r` — value
semantics cannot see the in-place update, which stays with the trace correspondence of the C18 check.
-/

namespace Df.Tie.Worker
open Df Df.Py

def turn (ext : Ext) (qi : PV) (q : List PV) (pid : PV) : Except Err (Ctl × Env) := do
  let env ← bindParams Live.Py.par_work_body.params [qi, .list q, pid] []
  let (c, st) ← exec ext Live.Py.par_work_body.body { env := env }
  pure (c, st.env)

/-- the row function returns, or raises an `Exception` that is then formatted and printed -/
def RowFunc (ext : Ext) (hold pid : PV) : Prop :=
  (∃ v, ext "row_func" [hold] = .ok v) ∨
  (ext "row_func" [hold] = .error (.user "Exception") ∧
    ∃ m u, ext ".format" [.str "FAILED TO RUN row_func {}\n", .opaque "exception" "Exception"] = .ok m ∧ ext "print" [pid, m] = .ok u)

theorem Tie_work_turn (ext : Ext) (qi hold pid : PV) (q : List PV)
    (hget : ext ".get" [qi] = .ok hold) (hput : ∀ xs v, ext ".put!" [.list xs, v] = .ok (.list (xs ++ [v])))
    (hrf : isNone hold = false → RowFunc ext hold pid) :
    ∃ env, turn ext qi q pid = .ok ((if isNone hold then Ctl.brk else Ctl.next), env)
      ∧ env.lookup "q_out" = some (.list (if isNone hold then q else q ++ [hold])) := by
  have hq : Env.get [("pid", pid), ("q_out", .list q), ("q_in", qi)] "q_in" = .ok qi := by simp [get_cons]
  unfold turn Live.Py.par_work_body
  simp only [bindParams, Env.set, bind, Except.bind, exec_take hq hget]
  cases hn : isNone hold with
  | true => exact ⟨_, by simp [pyl]; rfl, by simp [lookup_cons]⟩
  | false =>
    rcases hrf hn with ⟨v, hv⟩ | ⟨he, m, u, hm, hu⟩
    · exact ⟨_, by simp [pyl, hv, hput]; rfl, by simp⟩
    · exact ⟨_, by simp [pyl, he, hm, hu, hput]; rfl, by simp⟩

/-- non-vacuity: a row function that raises, queues that behave -/
example : RowFunc (fun name vs => match name, vs with
    | "row_func", _ => .error (.user "Exception")
    | ".format", _ => .ok (.str "FAILED")
    | "print", _ => .ok .none
    | _, _ => .error (.missingExt name)) (.int 3) (.int 1) := Or.inr ⟨rfl, .str "FAILED", .none, rfl, rfl⟩

end Df.Tie.Worker
