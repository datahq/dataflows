import DfModel.Steps
import DfProps.Assoc

/-! Lemmas about `Except`, lists, `List.mapM` / `List.foldlM` in `Except`, and the Layer-A combinators of
`DfModel.Steps` (`mapSel`, the `Row` operations, `lookupStr`), in this order; no property statements. -/

namespace Df

theorem Except.bind_eq_ok {ε α β} (x : Except ε α) (g : α → Except ε β) (b : β) :
    (x >>= g) = .ok b ↔ ∃ a, x = .ok a ∧ g a = .ok b := by
  cases x <;> simp [bind, Except.bind]

theorem Except.pure_eq_ok {ε α} (a b : α) : (pure a : Except ε α) = .ok b ↔ a = b := by
  simp [pure, Except.pure]

theorem Except.ok_bind {ε α β} (a : α) (g : α → Except ε β) : (Except.ok a >>= g) = g a := rfl

theorem Except.map_eq_ok {ε α β} (x : Except ε α) (g : α → β) (b : β) :
    (g <$> x) = .ok b ↔ ∃ a, x = .ok a ∧ g a = b := by
  cases x <;> simp [Functor.map, Except.map]

theorem nodup_concat {α} {l : List α} {a : α} (hl : l.Nodup) (ha : a ∉ l) : (l ++ [a]).Nodup :=
  List.nodup_append.mpr ⟨hl, by simp, fun x hx y hy e => ha (by simp at hy; rwa [← hy, ← e])⟩

theorem inj_of_nodup_map {α β} {f : α → β} {l : List α} (hn : (l.map f).Nodup) {a b : α} (ha : a ∈ l) (hb : b ∈ l)
    (hab : f a = f b) : a = b := by
  obtain ⟨i, hi, rfl⟩ := List.getElem_of_mem ha
  obtain ⟨j, hj, rfl⟩ := List.getElem_of_mem hb
  have : i = j := (List.getElem_inj (h₀ := by simpa using hi) (h₁ := by simpa using hj) hn).mp (by simpa using hab)
  subst this; rfl

/-- An insertion sort `l.foldr ins []` invents no element; `ins` is given by its two defining equations. -/
theorem mem_of_mem_foldr_insert {α} {ins : α → List α → List α} (hnil : ∀ x, ins x [] = [x])
    (hcons : ∀ x a as, ins x (a :: as) = x :: a :: as ∨ ins x (a :: as) = a :: ins x as) :
    ∀ (l : List α) (y : α), y ∈ l.foldr ins [] → y ∈ l := by
  have hins : ∀ x (l : List α) y, y ∈ ins x l → y = x ∨ y ∈ l := by
    intro x l
    induction l with
    | nil => intro y hy; rw [hnil] at hy; exact Or.inl (List.mem_singleton.mp hy)
    | cons a as ih =>
      intro y hy
      rcases hcons x a as with e | e <;> rw [e] at hy
      · exact List.mem_cons.mp hy
      · rcases List.mem_cons.mp hy with rfl | hy
        · exact Or.inr List.mem_cons_self
        · exact (ih y hy).imp_right (List.mem_cons_of_mem _)
  intro l
  induction l with
  | nil => intro y hy; exact hy
  | cons a as ih =>
    intro y hy
    rcases hins a _ y hy with rfl | hy
    · exact List.mem_cons_self
    · exact List.mem_cons_of_mem _ (ih y hy)

section mapM
variable {ε α β : Type} {f : α → Except ε β}

/-- Stated through `List.map`, so that length, position and membership follow from the lemmas about `List.map`. -/
theorem mapM_ok_iff : ∀ {l : List α} {out : List β}, l.mapM f = .ok out ↔ l.map f = out.map .ok := by
  intro l
  induction l with
  | nil => intro out; cases out <;> simp [pure, Except.pure]
  | cons a l ih =>
    intro out
    simp only [List.mapM_cons, Except.bind_eq_ok, Except.pure_eq_ok, ih, List.map_cons]
    constructor
    · rintro ⟨b, hb, bs, hbs, rfl⟩; simp [hb, hbs]
    · cases out with
      | nil => simp
      | cons b bs => intro h; simp only [List.map_cons, List.cons.injEq] at h; exact ⟨b, h.1, bs, h.2, rfl⟩

theorem mapM_ok_length {l : List α} {out : List β} (h : l.mapM f = .ok out) : out.length = l.length := by
  simpa using (congrArg List.length (mapM_ok_iff.mp h)).symm

theorem mapM_ok_getElem? {l : List α} {out : List β} (h : l.mapM f = .ok out) {i : Nat} {x : α} (hx : l[i]? = some x) :
    ∃ y, out[i]? = some y ∧ f x = .ok y := by
  have := congrArg (·[i]?) (mapM_ok_iff.mp h)
  simp only [List.getElem?_map, hx, Option.map_some] at this
  cases ho : out[i]? with
  | none => simp [ho] at this
  | some y => exact ⟨y, rfl, by simpa [ho] using this⟩

theorem mapM_ok_mem {l : List α} {out : List β} (h : l.mapM f = .ok out) {y : β} (hy : y ∈ out) : ∃ x ∈ l, f x = .ok y := by
  have := List.mem_map_of_mem (f := Except.ok (ε := ε)) hy
  rwa [← mapM_ok_iff.mp h, List.mem_map] at this

/-- Rows that each give `n` outputs give `|l| × n` in all. -/
theorem mapM_ok_flatten_length {f : α → Except ε (List β)} {n : Nat} (hf : ∀ a b, f a = .ok b → b.length = n)
    {l : List α} {outs : List (List β)} (h : l.mapM f = .ok outs) : outs.flatten.length = l.length * n := by
  have hl : outs.map List.length = outs.map (fun _ => n) := List.map_congr_left fun o ho =>
    let ⟨a, _, ha⟩ := mapM_ok_mem h ho; hf a o ha
  simp [List.length_flatten, hl, List.map_const', List.sum_replicate_nat, mapM_ok_length h]

end mapM

theorem foldlM_ok_rel {α β ε} {f : β → α → Except ε β} (R : β → β → Prop) (hrefl : ∀ b, R b b)
    (htrans : ∀ {a b c}, R a b → R b c → R a c) : ∀ (l : List α) {a b : β},
    (∀ x ∈ l, ∀ a b, f a x = .ok b → R a b) → l.foldlM f a = .ok b → R a b
  | [], a, b, _, h => by cases h; exact hrefl a
  | x :: l, a, b, hstep, h => by
    simp only [List.foldlM_cons, Except.bind_eq_ok] at h
    obtain ⟨c, hc, h⟩ := h
    exact htrans (hstep x List.mem_cons_self a c hc)
      (foldlM_ok_rel R hrefl htrans l (fun y hy => hstep y (List.mem_cons_of_mem _ hy)) h)

theorem foldlM_ok_inv {α β ε} {f : β → α → Except ε β} (P : β → Prop) {l : List α} {a b : β}
    (hstep : ∀ x ∈ l, ∀ a b, P a → f a x = .ok b → P b) (ha : P a) (h : l.foldlM f a = .ok b) : P b :=
  foldlM_ok_rel (fun a b => P a → P b) (fun _ h => h) (fun h1 h2 h => h2 (h1 h)) l
    (fun x hx a b h hp => hstep x hx a b hp h) h ha

theorem mapSel_eq_mapM (m : String → Bool) (f : Res → Except Err Res) (p : Pkg) :
    mapSel m f p = p.mapM (fun r => if m r.name then f r else pure r) := by
  induction p with
  | nil => rfl
  | cons r rs ih => simp only [mapSel, List.mapM_cons, ih]

theorem mapSel_names {m : String → Bool} {f : Res → Except Err Res} (hname : ∀ r r', f r = .ok r' → r'.name = r.name)
    {p q : Pkg} (h : mapSel m f p = .ok q) : q.names = p.names := by
  rw [mapSel_eq_mapM] at h
  refine List.ext_getElem? fun i => ?_
  simp only [Pkg.names, List.getElem?_map]
  cases hr : p[i]? with
  | none => rw [List.getElem?_eq_none_iff.mpr (mapM_ok_length h ▸ List.getElem?_eq_none_iff.mp hr)]
  | some r =>
    obtain ⟨r', hq, hf⟩ := mapM_ok_getElem? h hr
    rw [hq]
    split at hf
    · exact congrArg some (hname r r' hf)
    · cases hf; rfl

theorem mapSel_forall {m : String → Bool} {f : Res → Except Err Res} {P Q : Res → Prop}
    (hid : ∀ r, P r → Q r) (hf : ∀ r r', P r → f r = .ok r' → Q r')
    {p q : Pkg} (hp : ∀ r ∈ p, P r) (h : mapSel m f p = .ok q) : ∀ r ∈ q, Q r := by
  intro r' hr'
  rw [mapSel_eq_mapM] at h
  obtain ⟨r, hr, hfr⟩ := mapM_ok_mem h hr'
  split at hfr
  · exact hf r r' (hp r hr) hfr
  · cases hfr; exact hid _ (hp _ hr)

theorem Row.keys_set (row : Row) (k : String) (v : Val) :
    ∀ x, x ∈ Row.keys (Row.set row k v) ↔ x ∈ Row.keys row ∨ x = k := by
  intro x
  induction row with
  | nil => simp [Row.set, Row.keys]
  | cons kv rest ih =>
    simp only [Row.keys] at ih
    by_cases hkk : kv.1 = k
    · simp only [Row.set, hkk, if_true, Row.keys, List.map_cons, List.mem_cons]
      exact ⟨fun h => h.elim Or.inr fun h => Or.inl (Or.inr h), fun h => h.elim (fun h => h) Or.inl⟩
    · simp only [Row.set, hkk, if_false, Row.keys, List.map_cons, List.mem_cons, ih, or_assoc]

theorem Row.get?_set (row : Row) (k k' : String) (v : Val) : Row.get? (Row.set row k v) k' = if k = k' then some v else Row.get? row k' :=
  get_put_of_eqns (fun _ _ _ _ => rfl) (fun _ _ => rfl) (fun _ _ _ _ _ => rfl) row k k' v

theorem Row.get?_set_ne (row : Row) (k k' : String) (v : Val) (h : k' ≠ k) : Row.get? (Row.set row k v) k' = Row.get? row k' :=
  (Row.get?_set ..).trans (if_neg h.symm)

theorem Row.get?_set_eq (row : Row) (k : String) (v : Val) : Row.get? (Row.set row k v) k = some v :=
  (Row.get?_set ..).trans (if_pos rfl)

theorem Row.getD_set_ne (row : Row) (k k' : String) (v : Val) (h : k' ≠ k) :
    Row.getD (Row.set row k v) k' = Row.getD row k' := by
  simp [Row.getD, Row.get?_set_ne row k k' v h]

theorem Row.getD_set_eq (row : Row) (k : String) (v : Val) : Row.getD (Row.set row k v) k = v := by
  simp [Row.getD, Row.get?_set_eq]

theorem Row.mem_set {k : String} {v : Val} : ∀ {row : Row} {kv : String × Val}, kv ∈ Row.set row k v → kv = (k, v) ∨ kv ∈ row := by
  intro row
  induction row with
  | nil => intro kv h; simpa [Row.set] using h
  | cons e rest ih =>
    intro kv h
    simp only [Row.set] at h
    split at h
    · rcases List.mem_cons.mp h with h | h
      · exact Or.inl h
      · exact Or.inr (List.mem_cons_of_mem _ h)
    · rcases List.mem_cons.mp h with h | h
      · exact Or.inr (h ▸ List.mem_cons_self)
      · exact (ih h).imp_right (List.mem_cons_of_mem _)

/-- `Row.ofPairs` and `Row.update` are such folds. -/
theorem Row.mem_foldl_set : ∀ {ps : List (String × Val)} {acc : Row} {kv : String × Val},
    kv ∈ ps.foldl (fun acc p => Row.set acc p.1 p.2) acc → kv ∈ acc ∨ kv ∈ ps
  | [], _, _, h => Or.inl h
  | p :: ps, acc, kv, h => by
    rcases Row.mem_foldl_set (ps := ps) h with h | h
    · rcases Row.mem_set h with rfl | h
      · exact Or.inr List.mem_cons_self
      · exact Or.inl h
    · exact Or.inr (List.mem_cons_of_mem _ h)

theorem Row.mem_of_get? {k : String} {v : Val} : ∀ {row : Row}, Row.get? row k = some v → (k, v) ∈ row
  | (k', v') :: rest, h => by
    by_cases hk : k' = k
    · simp only [Row.get?, hk, if_true, Option.some.injEq] at h; simp [hk, h]
    · simp only [Row.get?, hk, if_false] at h; exact List.mem_cons_of_mem _ (Row.mem_of_get? h)

theorem Row.mem_keys_of_get? {row : Row} {k : String} {v : Val} (h : Row.get? row k = some v) : k ∈ Row.keys row :=
  List.mem_map_of_mem (f := Prod.fst) (Row.mem_of_get? h)

theorem Row.getD_null_or_mem (row : Row) (k : String) : Row.getD row k = .null ∨ (k, Row.getD row k) ∈ row := by
  cases hg : Row.get? row k with
  | none => exact Or.inl (by simp [Row.getD, hg])
  | some v => exact Or.inr (by simpa [Row.getD, hg] using Row.mem_of_get? hg)

theorem Row.getD_of_get? {row : Row} {k : String} {v : Val} (h : Row.get? row k = some v) : Row.getD row k = v := by
  simp [Row.getD, h]

theorem Row.keys_filter (P : String → Bool) (row : Row) :
    Row.keys (row.filter (fun kv => P kv.1)) = (Row.keys row).filter P :=
  List.filter_map.symm

theorem Row.get?_filter (P : String → Bool) (row : Row) (k : String) (hk : P k = true) :
    Row.get? (row.filter (fun kv => P kv.1)) k = Row.get? row k := by
  induction row with
  | nil => rfl
  | cons kv rest ih =>
    obtain ⟨k', v⟩ := kv
    by_cases hkk : k' = k
    · subst hkk; simp [hk, Row.get?]
    · cases hc : P k' <;> simp [hc, Row.get?, hkk, ih]

theorem Row.keys_restrict (row : Row) (names : List String) :
    Row.keys (Row.restrict row names) = (Row.keys row).filter (fun k => names.contains k) :=
  Row.keys_filter (fun k => names.contains k) row

theorem Row.get?_restrict (row : Row) (names : List String) (k : String) (hk : names.contains k = true) :
    Row.get? (Row.restrict row names) k = Row.get? row k :=
  Row.get?_filter (fun k => names.contains k) row k hk

theorem Row.index_eq_ok {row : Row} {k : String} {v : Val} : Row.index row k = .ok v ↔ Row.get? row k = some v := by
  unfold Row.index; cases Row.get? row k <;> simp

theorem Row.mem_keys_update (r other : Row) (x : String) :
    x ∈ Row.keys (Row.update r other) ↔ x ∈ Row.keys r ∨ x ∈ Row.keys other := by
  induction other generalizing r with
  | nil => simp [Row.update, Row.keys]
  | cons p ps ih =>
    show x ∈ Row.keys (Row.update (Row.set r p.1 p.2) ps) ↔ _ ∨ x ∈ p.1 :: Row.keys ps
    rw [ih, Row.keys_set, or_assoc, List.mem_cons]

theorem Row.mem_keys_ofPairs (ps : List (String × Val)) (x : String) :
    x ∈ Row.keys (Row.ofPairs ps) ↔ x ∈ Row.keys ps :=
  (Row.mem_keys_update [] ps x).trans (or_iff_right List.not_mem_nil)

theorem lookupStr_eq_none {mp : List (String × String)} {k : String} (h : k ∉ mp.map Prod.fst) : lookupStr mp k = none := by
  induction mp with
  | nil => rfl
  | cons e rest ih =>
    obtain ⟨a, b⟩ := e
    simp only [List.map_cons, List.mem_cons, not_or] at h
    simp only [lookupStr, Ne.symm h.1, if_false, ih h.2]

end Df
