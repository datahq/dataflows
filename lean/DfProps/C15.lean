import DfProps.Util

/-!
# C15 — field-level processors change schema and rows in lockstep

`Lockstep r` says: every row of `r` has exactly the declared fields as keys (as sets).
delete_fields, select_fields and add_field keep `Lockstep`, leave the other values alone and follow
the documented order of the schema; for rename_fields only the schema side (`renameLoop`) is here.
-/

namespace Df

/-- rows and schema agree: `k` is a key of the row iff `k` is a declared field -/
def Lockstep (r : Res) : Prop := ∀ row ∈ r.rows, ∀ k, k ∈ Row.keys row ↔ k ∈ r.fieldNames

/-! ## delete_fields, select_fields: restrict every row to a sub-list of the schema -/

/-- what both processors do once they have chosen the fields `F` to keep -/
theorem restrict_lockstep {r : Res} (h : Lockstep r) {F : List Field} (hF : ∀ f ∈ F, f ∈ r.fields) :
    let r' : Res := { r with fields := F, rows := r.rows.map (fun row => Row.restrict row (F.map Field.name)) }
    Lockstep r' ∧ r'.rows.length = r.rows.length ∧
    (∀ (i : Nat) row row', r.rows[i]? = some row → r'.rows[i]? = some row' →
      ∀ k ∈ r'.fieldNames, Row.get? row' k = Row.get? row k) := by
  refine ⟨?_, List.length_map _, ?_⟩
  · intro row' hrow' k
    obtain ⟨row, hrow, rfl⟩ := List.mem_map.mp hrow'
    -- a kept name is a name of the old schema, hence a key of the old row
    have hsub : k ∈ F.map Field.name → k ∈ Row.keys row := fun hk =>
      (h row hrow k).mpr (let ⟨f, hf, e⟩ := List.mem_map.mp hk; List.mem_map.mpr ⟨f, hF f hf, e⟩)
    rw [Row.keys_restrict, List.mem_filter, List.contains_iff_mem]
    exact ⟨fun h => h.2, fun hk => ⟨hsub hk, hk⟩⟩
  · intro i row row' hi hi' k hk
    simp only [List.getElem?_map, hi, Option.map_some, Option.some.injEq] at hi'
    subst hi'
    exact Row.get?_restrict row _ k (List.contains_iff_mem.mpr hk)

/-- delete_fields: the remaining fields keep their original order, every row keeps exactly
the remaining fields as keys, and their values are untouched -/
theorem C15_delete_lockstep (O : ReOracle) (pats : List String) (r : Res) (h : Lockstep r) :
    let r' := deleteFieldsRes O pats r
    Lockstep r' ∧
    r'.fields = r.fields.filter (fun f => !(pats.any (fun p => O.pmatch p f.name))) ∧
    r'.rows.length = r.rows.length ∧
    (∀ (i : Nat) row row', r.rows[i]? = some row → r'.rows[i]? = some row' →
      ∀ k ∈ r'.fieldNames, Row.get? row' k = Row.get? row k) :=
  have ⟨a, b⟩ := restrict_lockstep h fun _ hf => (List.mem_filter.mp hf).1
  ⟨a, rfl, b⟩

theorem mem_selectLoop (O : ReOracle) : ∀ (pats : List String) (avail : List Field) (f : Field),
    f ∈ selectLoop O pats avail ↔ f ∈ avail ∧ pats.any (fun p => O.pmatch p f.name) = true := by
  intro pats
  induction pats with
  | nil => intro avail f; simp [selectLoop]
  | cons p ps ih =>
    intro avail f
    simp only [selectLoop, List.mem_append, List.mem_filter, ih, List.any_cons, Bool.or_eq_true]
    cases O.pmatch p f.name <;> simp

theorem selectFieldsRes_ok {O : ReOracle} {pats : List String} {r r' : Res} (hs : selectFieldsRes O pats r = .ok r') :
    r' = { r with fields := selectLoop O pats r.fields,
                  rows := r.rows.map (fun row => Row.restrict row ((selectLoop O pats r.fields).map Field.name)) } := by
  simp only [selectFieldsRes] at hs
  split at hs
  · cases hs
  · cases hs; rfl

/-- select_fields keeps exactly the fields some pattern matches (nothing invented), rows and
schema stay in lockstep, kept values are untouched -/
theorem C15_select_lockstep (O : ReOracle) (pats : List String) (r r' : Res) (h : Lockstep r)
    (hs : selectFieldsRes O pats r = .ok r') :
    Lockstep r' ∧
    (∀ f, f ∈ r'.fields ↔ f ∈ r.fields ∧ pats.any (fun p => O.pmatch p f.name) = true) ∧
    r'.rows.length = r.rows.length ∧
    (∀ (i : Nat) row row', r.rows[i]? = some row → r'.rows[i]? = some row' →
      ∀ k ∈ r'.fieldNames, Row.get? row' k = Row.get? row k) := by
  cases selectFieldsRes_ok hs
  have ⟨a, b⟩ := restrict_lockstep h fun f hf => ((mem_selectLoop O pats r.fields f).mp hf).1
  exact ⟨a, mem_selectLoop O pats r.fields, b⟩

/-- selection order: the fields matched by an earlier pattern come before the fields first
matched by a later one (here: for the first pattern) -/
theorem C15_select_order (O : ReOracle) (p : String) (ps : List String) (fields : List Field) :
    selectLoop O (p :: ps) fields =
      fields.filter (fun f => O.pmatch p f.name) ++ selectLoop O ps (fields.filter (fun f => !(O.pmatch p f.name))) := rfl

/-! ## add_field -/

theorem Lockstep.append {r : Res} (h : Lockstep r) (f : Field) {rows' : List Row}
    (hrows : ∀ row' ∈ rows', ∃ row ∈ r.rows, ∃ v, row' = Row.set row f.name v) :
    Lockstep { r with fields := r.fields ++ [f], rows := rows' } := by
  intro row' hrow' k
  obtain ⟨row, hrow, v, rfl⟩ := hrows row' hrow'
  rw [Row.keys_set, h row hrow k]
  simp [Res.fieldNames]

/-- add_field: the new field is appended to the schema, every row gets it with the default
value, every other value is untouched, lockstep is kept -/
theorem C15_add_appended (f : Field) (v : Val) (r : Res) (h : Lockstep r) :
    let r' := addFieldRes f v r
    Lockstep r' ∧ r'.fields = r.fields ++ [f] ∧
    (∀ row' ∈ r'.rows, Row.get? row' f.name = some v) ∧
    (∀ (i : Nat) row row', r.rows[i]? = some row → r'.rows[i]? = some row' →
      ∀ k, k ≠ f.name → Row.get? row' k = Row.get? row k) := by
  refine ⟨h.append f fun row' hrow' => ?_, rfl, fun row' hrow' => ?_, fun i row row' hi hi' k hk => ?_⟩
  · obtain ⟨row, hrow, rfl⟩ := List.mem_map.mp hrow'
    exact ⟨row, hrow, v, rfl⟩
  · obtain ⟨row, -, rfl⟩ := List.mem_map.mp hrow'
    exact Row.get?_set_eq _ _ _
  · simp only [addFieldRes, List.getElem?_map, hi, Option.map_some, Option.some.injEq] at hi'
    subst hi'
    exact Row.get?_set_ne _ _ _ _ hk

/-! ## rename_fields -/

/-- a successful package phase of rename_fields: every field gets its first matching target (or
keeps its name), the map records exactly the renamed ones, and the targets are pairwise distinct
and new with respect to `seen` -/
theorem renameLoop_ok (O : ReOracle) (pairs : List (String × String)) :
    ∀ (fields : List Field) (seen : List String) (fs : List Field) (mp : List (String × String)),
      renameLoop O pairs fields seen = .ok (fs, mp) →
      fs = fields.map (fun f => { f with name := (renameTarget O pairs f.name).getD f.name }) ∧
      mp = fields.filterMap (fun f => (renameTarget O pairs f.name).map (fun t => (f.name, t))) ∧
      (mp.map Prod.snd).Nodup ∧ ∀ t ∈ mp.map Prod.snd, t ∉ seen := by
  intro fields
  induction fields with
  | nil => intro seen fs mp h; cases h; exact ⟨rfl, rfl, .nil, fun _ h => nomatch h⟩
  | cons f rest ih =>
    intro seen fs mp h
    rw [renameLoop] at h
    rw [List.map_cons, List.filterMap_cons]
    cases ht : renameTarget O pairs f.name with
    | none =>
      simp only [ht, Except.bind_eq_ok, Except.pure_eq_ok, Prod.mk.injEq] at h
      obtain ⟨⟨fs', mp'⟩, h1, rfl, rfl⟩ := h
      obtain ⟨a, b, c⟩ := ih seen fs' mp' h1
      exact ⟨a ▸ rfl, b, c⟩
    | some t =>
      simp only [ht] at h
      split at h
      · cases h
      · rename_i hns
        simp only [Except.bind_eq_ok, Except.pure_eq_ok, Prod.mk.injEq] at h
        obtain ⟨⟨fs', mp'⟩, h1, rfl, rfl⟩ := h
        obtain ⟨a, b, hnd, hseen⟩ := ih (t :: seen) fs' mp' h1
        refine ⟨a ▸ rfl, b ▸ rfl, List.nodup_cons.mpr ⟨fun hm => hseen t hm List.mem_cons_self, hnd⟩, ?_⟩
        intro x hx
        rcases List.mem_cons.mp hx with rfl | hx
        · simpa using hns
        · exact fun hxs => hseen x hx (List.mem_cons_of_mem _ hxs)

theorem C15_rename_schema (O : ReOracle) (pairs : List (String × String)) :
    ∀ (fields : List Field) (seen : List String) (fs : List Field) (mp : List (String × String)),
      renameLoop O pairs fields seen = .ok (fs, mp) →
      fs.map Field.name = fields.map (fun f => (renameTarget O pairs f.name).getD f.name) ∧
      fs.map Field.type = fields.map Field.type ∧
      mp = fields.filterMap (fun f => (renameTarget O pairs f.name).map (fun t => (f.name, t))) := by
  intro fields seen fs mp h
  obtain ⟨rfl, rfl, -⟩ := renameLoop_ok O pairs fields seen fs mp h
  simp [Function.comp_def]

theorem C15_rename_no_double_target (O : ReOracle) (pairs : List (String × String)) :
    ∀ (fields : List Field) (seen : List String) (fs : List Field) (mp : List (String × String)),
      renameLoop O pairs fields seen = .ok (fs, mp) →
      (mp.map Prod.snd).Nodup ∧ ∀ t ∈ mp.map Prod.snd, t ∉ seen :=
  fun fields seen fs mp h => (renameLoop_ok O pairs fields seen fs mp h).2.2

example : (renameFieldsRes ⟨fun p s => p == "^" ++ s ++ "$", fun _ _ => false, fun _ r _ => r⟩
    [("^a$", "z")] { name := "t", fields := [⟨"a", "integer", ""⟩, ⟨"b", "string", ""⟩],
                     rows := [[("a", .int 1), ("b", .str "x")]] }).toOption.map
    (fun r => (r.fieldNames, r.rows.map Row.keys)) = some (["z", "b"], [["z", "b"]]) := by decide

end Df
