import DfProps.Util
import DfModel.Validate

/-!
# C14 — set_type / validate cast valid values and apply the error policy exactly

All statements are universal in the cast function (`cast`, Table Schema's `cast_value`), the
rows, the number and the positions of bad values.  `fields` are the checked fields (set_type:
those its pattern selects; validate: all schema fields); their names are distinct, as in any
valid descriptor (`fields.Nodup`).
-/

namespace Df

variable (cast : Cast)

/-- what the handler of a policy answers for a bad value (the row is kept iff every answer is true) -/
def Policy.answer : Policy → Nat → String → Bool
  | .raise, _, _ => false
  | .drop, _, _ => false
  | .ignore, _, _ => true
  | .clear, _, _ => true
  | .custom keep, i, f => keep i f

/-- the new value of a checked field, decided from the *incoming* row: its cast when it casts;
`null` for an uncastable value under `clear`; otherwise unchanged -/
def fieldOut (pol : Policy) (row : Row) (f : String) : Option Val :=
  match cast f (Row.getD row f) with
  | some v => some v
  | none => match pol with
    | .clear => some .null
    | _ => none

def rowOut (pol : Policy) (fields : List String) (row : Row) (acc : Row) : Row :=
  fields.foldl (fun r f => match fieldOut cast pol row f with
                           | some v => Row.set r f v
                           | none => r) acc

/-- the row survives iff each checked field casts or its handler answered true -/
def okayOut (pol : Policy) (i : Nat) (fields : List String) (row : Row) : Bool :=
  fields.all (fun f => (cast f (Row.getD row f)).isSome || pol.answer i f)

/-- does the handler of the policy abort the run -/
def Policy.raises : Policy → Bool
  | .raise => true
  | _ => false

theorem castField_eq (pol : Policy) (res : String) (i : Nat) (acc : Row) (ok : Bool) (f : String) :
    castField cast pol res i (acc, ok) f =
      if pol.raises && !(cast f (Row.getD acc f)).isSome then .error (.validation res i)
      else .ok (match fieldOut cast pol acc f with
                | some v => Row.set acc f v
                | none => acc,
                ok && ((cast f (Row.getD acc f)).isSome || pol.answer i f)) := by
  cases h : cast f (Row.getD acc f) with
  | some v => simp [castField, fieldOut, h]
  | none => cases pol <;> simp [castField, fieldOut, Policy.raises, Policy.answer, h]

theorem ite_and_not (R s a : Bool) {α} (e x : α) :
    (if R && !(s && a) then e else x) = if R && !s then e else if R && !a then e else x := by
  cases R <;> cases s <;> rfl

/-- With distinct field names the per-field decisions of the loop depend only on
the incoming row, so the loop computes `rowOut`/`okayOut`, or fails under `raise`. -/
theorem foldlM_castField (pol : Policy) (res : String) (i : Nat) (row : Row) :
    ∀ (fields : List String) (acc : Row) (ok : Bool), fields.Nodup →
      (∀ f ∈ fields, Row.getD acc f = Row.getD row f) →
      fields.foldlM (castField cast pol res i) (acc, ok) =
        if pol.raises && !allCastable cast fields row then .error (.validation res i)
        else .ok (rowOut cast pol fields row acc, ok && okayOut cast pol i fields row) := by
  intro fields
  induction fields with
  | nil => intro acc ok _ _; cases pol.raises <;> cases ok <;> rfl
  | cons f fs ih =>
    intro acc ok hnd hinv
    obtain ⟨hf, hnd'⟩ := List.nodup_cons.mp hnd
    have hacc : Row.getD acc f = Row.getD row f := hinv f List.mem_cons_self
    have hfo : fieldOut cast pol acc f = fieldOut cast pol row f := by unfold fieldOut; rw [hacc]
    rw [List.foldlM_cons, castField_eq, hacc, hfo]
    refine Eq.trans ?_ (ite_and_not _ _ _ _ _).symm
    cases pol.raises && !(cast f (Row.getD row f)).isSome
    · refine (ih _ _ hnd' fun g hg => ?_).trans (by rw [Bool.and_assoc]; rfl)
      have := hinv g (List.mem_cons_of_mem _ hg)
      cases fieldOut cast pol row f
      · exact this
      · rwa [Row.getD_set_ne _ _ _ _ fun h : g = f => hf (h ▸ hg)]
    · rfl

theorem castRow_eq (pol : Policy) (res : String) (i : Nat) (fields : List String) (hnd : fields.Nodup)
    (row : Row) :
    castRow cast pol res i fields row =
      if pol.raises && !allCastable cast fields row then .error (.validation res i)
      else .ok (rowOut cast pol fields row row, okayOut cast pol i fields row) :=
  foldlM_castField cast pol res i row fields row true hnd fun _ _ => rfl

theorem okayOut_const (pol : Policy) (i : Nat) (b : Bool) (h : ∀ f, pol.answer i f = b)
    (fields : List String) (row : Row) :
    okayOut cast pol i fields row = (b || allCastable cast fields row) := by
  cases b <;> simp [okayOut, allCastable, h]

theorem validateFrom_cons (pol : Policy) (res : String) (fields : List String) (hnd : fields.Nodup)
    (i : Nat) (r : Row) (rs : List Row) :
    validateFrom cast pol res fields i (r :: rs) =
      if pol.raises && !allCastable cast fields r then .error (.validation res i)
      else (validateFrom cast pol res fields (i + 1) rs).map fun tail =>
        if okayOut cast pol i fields r then rowOut cast pol fields r r :: tail else tail := by
  show (castRow cast pol res i fields r >>= _) = _
  rw [castRow_eq cast pol res i fields hnd]
  cases pol.raises && !allCastable cast fields r <;> rfl

/-- When no row makes the handler raise, the rows whose handlers all answered true (indices
counted over all incoming rows) are emitted, in order, as `rowOut` makes them. -/
theorem validateFrom_ok (pol : Policy) (res : String) (fields : List String) (hnd : fields.Nodup) :
    ∀ (i : Nat) (rows : List Row), (∀ r ∈ rows, pol.raises = true → allCastable cast fields r = true) →
      validateFrom cast pol res fields i rows =
        .ok (((rows.zipIdx i).filter fun ri => okayOut cast pol ri.2 fields ri.1).map
              fun ri => rowOut cast pol fields ri.1 ri.1) := by
  intro i rows
  induction rows generalizing i with
  | nil => intro _; rfl
  | cons r rs ih =>
    intro h
    have hr : (pol.raises && !allCastable cast fields r) = false := by
      cases hp : pol.raises <;> simp [h r List.mem_cons_self, hp]
    rw [validateFrom_cons cast pol res fields hnd, hr, ih _ fun x hx => h x (List.mem_cons_of_mem _ hx),
      List.zipIdx_cons, List.filter_cons]
    cases okayOut cast pol i fields r <;> rfl

theorem filter_map_zipIdx {α β} (p : α → Bool) (g : α → β) (l : List α) (i : Nat) :
    ((l.zipIdx i).filter fun x => p x.1).map (fun x => g x.1) = (l.filter p).map g := by
  have := List.filter_map (f := Prod.fst) (p := p) (l := l.zipIdx i)
  rw [List.zipIdx_map_fst] at this
  rw [this, List.map_map]; rfl

theorem validateFrom_const (pol : Policy) (res : String) (fields : List String) (hnd : fields.Nodup)
    (b : Bool) (hb : ∀ i f, pol.answer i f = b) (i : Nat) (rows : List Row)
    (h : ∀ r ∈ rows, pol.raises = true → allCastable cast fields r = true) :
    validateFrom cast pol res fields i rows =
      .ok ((if b then rows else rows.filter (allCastable cast fields)).map
            fun r => rowOut cast pol fields r r) := by
  rw [validateFrom_ok cast pol res fields hnd i rows h]
  simp only [okayOut_const cast pol _ b (hb _)]
  refine congrArg Except.ok ((filter_map_zipIdx (fun r => b || allCastable cast fields r)
    (fun r => rowOut cast pol fields r r) rows i).trans ?_)
  cases b
  · rfl
  · exact congrArg _ (List.filter_eq_self.mpr fun _ _ => rfl)

/-- A loop that stores under each of the distinct keys `fs` a value computed from what the key
held (or leaves it, on `none`): every key sees the incoming value, other keys are untouched.
`rowOut` and `transformRow` are such loops. -/
theorem Row.getD_foldl_set (u : String → Val → Option Val) :
    ∀ (fs : List String) (acc : Row) (g : String), fs.Nodup →
      Row.getD (fs.foldl (fun r f => match u f (Row.getD r f) with
                                     | some v => Row.set r f v
                                     | none => r) acc) g =
        if g ∈ fs then (u g (Row.getD acc g)).getD (Row.getD acc g) else Row.getD acc g := by
  intro fs
  induction fs with
  | nil => intro _ _ _; rfl
  | cons f fs ih =>
    intro acc g hnd
    obtain ⟨hf, hnd'⟩ := List.nodup_cons.mp hnd
    rw [List.foldl_cons, ih _ g hnd']
    by_cases hg : g = f
    · subst hg
      rw [if_neg hf, if_pos List.mem_cons_self]
      cases u g (Row.getD acc g) with
      | none => rfl
      | some v => exact Row.getD_set_eq acc g v
    · have : Row.getD (match u f (Row.getD acc f) with
                       | some v => Row.set acc f v
                       | none => acc) g = Row.getD acc g := by
        cases u f (Row.getD acc f) with
        | none => rfl
        | some v => exact Row.getD_set_ne acc f g v hg
      simp only [this, List.mem_cons, hg, false_or]

/-- Every emitted value of a checked field is the cast of the incoming value, or — when it
does not cast — the incoming value itself (`ignore`, custom) or null (`clear`); unchecked
fields are never touched. -/
theorem C14_emitted_is_cast (pol : Policy) (fields : List String) (hnd : fields.Nodup) (row : Row) :
    (∀ f ∈ fields, Row.getD (rowOut cast pol fields row row) f =
        (fieldOut cast pol row f).getD (Row.getD row f)) ∧
    (∀ g, g ∉ fields → Row.getD (rowOut cast pol fields row row) g = Row.getD row g) :=
  have h := Row.getD_foldl_set (fun f _ => fieldOut cast pol row f) fields row
  ⟨fun f hf => (h f hnd).trans (if_pos hf), fun g hg => (h g hnd).trans (if_neg hg)⟩

/-- `drop` removes exactly the rows with an uncastable value; every other row is emitted, in
order, with its checked fields cast -/
theorem C14_drop_exact (res : String) (fields : List String) (hnd : fields.Nodup) :
    ∀ (i : Nat) (rows : List Row), validateFrom cast .drop res fields i rows =
      .ok ((rows.filter (allCastable cast fields)).map (fun r => rowOut cast .drop fields r r)) :=
  fun i rows => validateFrom_const cast .drop res fields hnd false (fun _ _ => rfl) i rows fun _ _ => nofun

/-- `ignore` keeps every row, in order; values that do not cast stay as they came -/
theorem C14_ignore_keeps (res : String) (fields : List String) (hnd : fields.Nodup) :
    ∀ (i : Nat) (rows : List Row), validateFrom cast .ignore res fields i rows =
      .ok (rows.map (fun r => rowOut cast .ignore fields r r)) :=
  fun i rows => validateFrom_const cast .ignore res fields hnd true (fun _ _ => rfl) i rows fun _ _ => nofun

/-- `clear` keeps every row, in order, and nulls exactly the offending fields -/
theorem C14_clear_exact (res : String) (fields : List String) (hnd : fields.Nodup) :
    ∀ (i : Nat) (rows : List Row), validateFrom cast .clear res fields i rows =
      .ok (rows.map (fun r => rowOut cast .clear fields r r)) :=
  fun i rows => validateFrom_const cast .clear res fields hnd true (fun _ _ => rfl) i rows fun _ _ => nofun

/-- a custom handler: the row at (absolute) index `i` is kept iff the handler answered truthy
for each of its offending fields -/
theorem C14_custom_handler_semantics (keep : Nat → String → Bool) (res : String) (fields : List String)
    (hnd : fields.Nodup) :
    ∀ (i : Nat) (rows : List Row) (out : List Row),
      validateFrom cast (.custom keep) res fields i rows = .ok out →
      out = ((rows.zipIdx i).filter (fun ri => okayOut cast (.custom keep) ri.2 fields ri.1)).map
              (fun ri => rowOut cast (.custom keep) fields ri.1 ri.1) := by
  intro i rows out h
  rw [validateFrom_ok cast (.custom keep) res fields hnd i rows fun _ _ => nofun] at h
  exact (Except.ok.inj h).symm

/-- `raise`: when every row is valid the table is emitted cast, nothing dropped or reordered -/
theorem C14_valid_rows_preserved (res : String) (fields : List String) (hnd : fields.Nodup) :
    ∀ (i : Nat) (rows : List Row), (∀ r ∈ rows, allCastable cast fields r = true) →
      validateFrom cast .raise res fields i rows = .ok (rows.map (fun r => rowOut cast .raise fields r r)) := by
  intro i rows h
  have := validateFrom_const cast .raise res fields hnd false (fun _ _ => rfl) i rows fun r hr _ => h r hr
  rwa [if_neg Bool.false_ne_true, List.filter_eq_self.mpr h] at this

/-- `raise`: the run aborts with the index — counted over all incoming rows — of the first
row holding an uncastable value -/
theorem C14_raise_first_bad (res : String) (fields : List String) (hnd : fields.Nodup) :
    ∀ (i : Nat) (pre : List Row) (bad : Row) (post : List Row),
      (∀ r ∈ pre, allCastable cast fields r = true) → allCastable cast fields bad = false →
      validateFrom cast .raise res fields i (pre ++ bad :: post) = .error (.validation res (i + pre.length)) := by
  intro i pre
  induction pre generalizing i with
  | nil =>
    intro bad post _ hb
    rw [List.nil_append, validateFrom_cons cast _ res fields hnd, hb]; rfl
  | cons r rs ih =>
    intro bad post h hb
    rw [List.cons_append, validateFrom_cons cast _ res fields hnd, h r List.mem_cons_self,
      ih (i + 1) bad post (fun x hx => h x (List.mem_cons_of_mem _ hx)) hb, List.length_cons,
      Nat.add_right_comm, Nat.add_assoc]
    rfl

/-- non-vacuity: mixed table under drop, with a cast that rejects the string "x" -/
example : (schemaValidator (fun _ v => if v = .str "x" then none else some v) .drop "t" ["a", "b"]
    [[("a", .int 1), ("b", .str "y")], [("a", .str "x"), ("b", .int 2)], [("a", .int 3), ("b", .int 4)]]).toOption
    = some [[("a", .int 1), ("b", .str "y")], [("a", .int 3), ("b", .int 4)]] := by decide

end Df
