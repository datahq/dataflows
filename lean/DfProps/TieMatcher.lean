import DfProps.TieBase

/-!
# Tie (C10): `ResourceMatcher.__init__` + `.match` **as written in /repo now** = `Sel.resolve`

The constructor and the `match` method are re-translated from helpers/resource_matcher.py on every run
(`Live.Py.matcher_init`, `Live.Py.matcher_match`).  `Tie_matcher_*`: constructing a matcher from a selector
and a package descriptor and asking it about a name gives exactly what the model's `Sel.resolve` gives — for
every selector form, every list of resource names, every name and every regular-expression oracle.
`C10_matcher_spec` (resolve = the specification of the property) therefore speaks about the code that is
there now.
-/

namespace Df.Tie
open Df Df.Py

def selArg : Sel → PV
  | .all => .none
  | .re p => .str p
  | .names l => .list (l.map PV.str)
  | .idx i => .int i

/-- a package descriptor (as a dict) with the given resource names -/
def dpOf (names : List String) : PV :=
  .dict [(.str "resources", .list (names.map (fun n => .dict [(.str "name", .str n)])))]

/-- `pattern.fullmatch(name)`: a match object or None, as the oracle says -/
def extOf (O : ReOracle) : Ext := fun f args =>
  match f, args with
  | ".fullmatch", [.regex p, .str s] => .ok (if O.full p s then .opaque "match" s else .none)
  | _, _ => .error (.missingExt f)

/-- construct, then ask: what `ResourceMatcher(sel, dp).match(name)` evaluates to -/
def matcherRun (O : ReOracle) (names : List String) (sel : Sel) (name : String) : Except Err PV := do
  let env ← callFnEnv (extOf O) Live.Py.matcher_init [.none, selArg sel, dpOf names]
  callFn (extOf O) Live.Py.matcher_match
    [.none, .str name, (env.lookup "self.resources").getD .none, (env.lookup "self.re").getD .none]

theorem Tie_matcher_all (O : ReOracle) (names : List String) (name : String) :
    matcherRun O names .all name = .ok (.bool true) := rfl

theorem Tie_matcher_re (O : ReOracle) (names : List String) (p name : String) :
    matcherRun O names (.re p) name = .ok (.bool (O.full p name)) := by
  refine (rfl : _ = Except.ok (PV.bool (!isNone (if O.full p name then PV.opaque "match" name else .none)))).trans ?_
  cases O.full p name <;> rfl

theorem Tie_matcher_names (O : ReOracle) (names l : List String) (name : String) :
    matcherRun O names (.names l) name = .ok (.bool (l.contains name)) :=
  (rfl : _ = Except.ok (PV.bool (PV.elem (.str name) (l.map PV.str)))).trans (by rw [elem_str])

theorem Tie_matcher_idx (O : ReOracle) (names : List String) (i : Int) (name : String) :
    matcherRun O names (.idx i) name = match pyIndex names i with
      | some n0 => .ok (.bool (name == n0))
      | none => .error (.keyError "index out of range") := by
  unfold matcherRun callFnEnv Live.Py.matcher_init Live.Py.matcher_match
  simp only [selArg, dpOf]
  cases h : pyIndex names i with
  | none => simp [pyl, pyIndexPV_map, h]
  | some n0 => simp [pyl, pyIndexPV_map, h, PV.elem]; exact Bool.beq_comm

/-- all four forms at once: the code's matcher is the model's `Sel.resolve` -/
theorem Tie_matcher_resolve (O : ReOracle) (names : List String) (sel : Sel) (name : String) :
    (matcherRun O names sel name).toOption = ((Sel.resolve O names sel).toOption.map (fun f => PV.bool (f name))) := by
  cases sel with
  | all => rw [Tie_matcher_all]; simp [Sel.resolve, Except.toOption]
  | re p => rw [Tie_matcher_re]; simp [Sel.resolve, Except.toOption]
  | names l => rw [Tie_matcher_names]; simp [Sel.resolve, Except.toOption]
  | idx i =>
    rw [Tie_matcher_idx]
    cases h : pyIndex names i <;> simp [Sel.resolve, h, Except.toOption]

end Df.Tie
