import DfModel.Parallelize

/-!
# C18 — parallelize delivers every row exactly once under every schedule

For every number of workers, every input, predicate and row function, and every schedule
(sequence of atomic queue operations of the actors): every execution is finite; no row is lost,
duplicated or transformed twice on the way; while the collector has not finished some actor can
move; and once it has, the rows delivered are a permutation of the sequential result.
-/

namespace Df.Par

variable (p : Row → Bool) (f : Row → Row)

/-- The branches of `step`, one constructor each: guard(s) and resulting state. -/
inductive Step (s : St) : Actor → St → Prop
  | prodSel {r rs} : s.input = r :: rs → p r = true →
      Step s .prod { s with input := rs, qRows := s.qRows ++ [r] }
  | prodSkip {r rs} : s.input = r :: rs → p r = false →
      Step s .prod { s with input := rs, qInt := s.qInt ++ [some r] }
  | prodNone : s.input = [] → 0 < s.nonesLeft →
      Step s .prod { s with nonesLeft := s.nonesLeft - 1, qNones := s.qNones + 1 }
  | wGetRow {i w r q} : s.ws[i]? = some w → w.st = .idle → s.qRows = r :: q →
      Step s (.wGet i) { s with qRows := q, ws := s.ws.set i { w with st := .hold r } }
  | wGetNone {i w} : s.ws[i]? = some w → w.st = .idle → s.qRows = [] → 0 < s.qNones →
      Step s (.wGet i) { s with qNones := s.qNones - 1, ws := s.ws.set i { w with st := .gotNone } }
  | wPutRow {i w r} : s.ws[i]? = some w → w.st = .hold r →
      Step s (.wPut i) { s with ws := s.ws.set i { w with st := .idle, chRows := w.chRows ++ [f r] } }
  | wPutNone {i w} : s.ws[i]? = some w → w.st = .gotNone →
      Step s (.wPut i) { s with ws := s.ws.set i { w with st := .done, chNone := true } }
  | fGetRow {i w r c} : s.fDone = false → s.fHold = none → s.ws[i]? = some w → w.chRows = r :: c →
      Step s (.fGet i) { s with ws := s.ws.set i { w with chRows := c }, fHold := some (some r) }
  | fGetNone {i w} : s.fDone = false → s.fHold = none → s.ws[i]? = some w → w.chRows = [] → w.chNone = true →
      Step s (.fGet i) { s with ws := s.ws.set i { w with chNone := false, fin := true }, fHold := some none }
  | fPutRow {r} : s.fHold = some (some r) →
      Step s .fPut { s with fHold := none, qInt := s.qInt ++ [some r] }
  | fPutLast : s.fHold = some none → s.expected = 1 →
      Step s .fPut { s with fHold := none, expected := 0, fDone := true, qInt := s.qInt ++ [none] }
  | fPutMore : s.fHold = some none → s.expected ≠ 1 →
      Step s .fPut { s with fHold := none, expected := s.expected - 1 }
  | collRow {r q} : s.cDone = false → s.qInt = some r :: q →
      Step s .coll { s with qInt := q, delivered := s.delivered ++ [r] }
  | collNone {q} : s.cDone = false → s.qInt = none :: q →
      Step s .coll { s with qInt := q, cDone := true }

theorem Step.of_step {s s' : St} {a : Actor} (h : step p f s a = some s') : Step p f s a s' := by
  cases a <;> simp only [step] at h
  case prod =>
    split at h
    · next hin =>
      split at h <;> cases h
      · exact .prodSel hin ‹_›
      · exact .prodSkip hin (Bool.eq_false_iff.2 ‹_›)
    · next hin => split at h <;> cases h; exact .prodNone hin ‹_›
  case wGet i =>
    split at h <;> try cases h
    next w hw =>
    split at h <;> try cases h
    next hidle =>
    split at h
    · next hq => cases h; exact .wGetRow hw hidle hq
    · next hq => split at h <;> cases h; exact .wGetNone hw hidle hq ‹_›
  case wPut i =>
    split at h <;> try cases h
    next w hw =>
    split at h <;> cases h
    · exact .wPutRow hw ‹_›
    · exact .wPutNone hw ‹_›
  case fGet i =>
    split at h <;> try cases h
    next hc =>
    simp only [Bool.or_eq_true, not_or, Bool.not_eq_true, Option.isSome_eq_false_iff, Option.isNone_iff_eq_none] at hc
    split at h <;> try cases h
    next w hw =>
    split at h
    · next hr => cases h; exact .fGetRow hc.1 hc.2 hw hr
    · next hr => split at h <;> cases h; exact .fGetNone hc.1 hc.2 hw hr ‹_›
  case fPut =>
    split at h
    · next hh => cases h; exact .fPutRow hh
    · next hh =>
      split at h <;> cases h
      · exact .fPutLast hh ‹_›
      · exact .fPutMore hh ‹_›
    · cases h
  case coll =>
    split at h <;> try cases h
    next hc =>
    split at h <;> cases h
    · exact .collRow (by simpa using hc) ‹_›
    · exact .collNone (by simpa using hc) ‹_›

theorem Step.step_eq {s s' : St} {a : Actor} (h : Step p f s a s') : step p f s a = some s' := by
  cases h <;> simp [Par.step, *]


/-! ## A. termination -/

def wPot (w : W) : Nat :=
  (match w.st with | .idle => 0 | .hold _ => 5 | .gotNone => 5 | .done => 0) + 4 * w.chRows.length +
    (if w.chNone then 4 else 0)

def wsPot : List W → Nat
  | [] => 0
  | w :: ws => wPot w + wsPot ws

def measure (s : St) : Nat :=
  7 * s.input.length + 7 * s.nonesLeft + 6 * s.qRows.length + 6 * s.qNones + wsPot s.ws
  + (if s.fHold.isSome then 3 else 0) + 2 * s.qInt.length + (if s.cDone then 0 else 1)

/-- A total `F` over the workers with summand `g` (`wsPot`, `consW`, `finW`, a count in `wsFlight`)
splits off the summand of worker `i`, also after that worker is replaced. -/
theorem total_set {F : List W → Nat} {g : W → Nat} (hF : ∀ w ws, F (w :: ws) = g w + F ws) :
    ∀ {ws : List W} {i : Nat} {w : W}, ws[i]? = some w →
      ∃ rest, F ws = rest + g w ∧ ∀ w', F (ws.set i w') = rest + g w'
  | _ :: as, 0, _, h => by cases h; exact ⟨F as, by simp [hF, Nat.add_comm]⟩
  | a :: as, i + 1, _, h => by
    obtain ⟨k, e, e'⟩ := total_set hF (ws := as) (i := i) h
    exact ⟨g a + k, by simp [hF, e, e', Nat.add_assoc]⟩

/-- **Every schedule is finite**: each step of any actor strictly decreases the potential. -/
theorem C18_terminates (s s' : St) (a : Actor) (h : step p f s a = some s') : measure s' < measure s := by
  have pot {i w} (hw : s.ws[i]? = some w) := total_set (F := wsPot) (g := wPot) (fun _ _ => rfl) hw
  cases Step.of_step p f h with
  | prodSel hin | prodSkip hin => simp +arith [measure, hin]
  | prodNone hin => simp +arith [measure, hin]; omega
  | wGetRow hw hst hq => obtain ⟨k, e, e'⟩ := pot hw; simp +arith [measure, wPot, e, e', hst, hq]
  | wGetNone hw hst hq => obtain ⟨k, e, e'⟩ := pot hw; simp +arith [measure, wPot, e, e', hst, hq]; omega
  | wPutRow hw hst | wPutNone hw hst => obtain ⟨k, e, e'⟩ := pot hw; simp +arith [measure, wPot, e, e', hst]
  | fGetRow _ hh hw hc => obtain ⟨k, e, e'⟩ := pot hw; simp +arith [measure, wPot, e, e', hh, hc]
  | fGetNone _ hh hw hc hn => obtain ⟨k, e, e'⟩ := pot hw; simp +arith [measure, wPot, e, e', hh, hc, hn]
  | fPutRow hh | fPutLast hh | fPutMore hh => simp +arith [measure, hh]
  | collRow hc hq | collNone hc hq => simp +arith [measure, hc, hq]

/-- the steps of a schedule that are taken (those of blocked actors are skipped) -/
def effSteps (s : St) : List Actor → Nat
  | [] => 0
  | a :: rest => match step p f s a with
    | some s' => effSteps s' rest + 1
    | none => effSteps s rest

theorem runSched_measure : ∀ (sched : List Actor) (s : St),
    measure (runSched p f s sched) + effSteps p f s sched ≤ measure s
  | [], _ => Nat.le_refl _
  | a :: rest, s => by
    rw [runSched, effSteps]
    cases h : step p f s a with
    | none => exact runSched_measure rest s
    | some s' =>
      have := runSched_measure rest s'
      have := C18_terminates p f s s' a h
      show measure (runSched p f s' rest) + (effSteps p f s' rest + 1) ≤ measure s
      omega

/-- hence no schedule has more effective steps than the initial potential -/
theorem C18_bounded_steps (s0 : St) : ∀ (sched : List Actor) (s : St), measure s ≤ measure s0 →
    measure (runSched p f s sched) ≤ measure s0 :=
  fun sched s h => Nat.le_trans (Nat.le_of_add_right_le (runSched_measure p f sched s)) h

/-! ## B. conservation -/

def wFlight (w : W) : List Row :=
  (match w.st with | .hold r => [f r] | _ => []) ++ w.chRows

def wsFlight : List W → List Row
  | [] => []
  | w :: ws => wFlight f w ++ wsFlight ws

def holdRows : Option (Option Row) → List Row
  | some (some r) => [r]
  | _ => []

def qIntRows : List (Option Row) → List Row
  | [] => []
  | some r :: q => r :: qIntRows q
  | none :: q => qIntRows q

/-- every row that is somewhere in the system, as it will come out -/
def flight (s : St) : List Row :=
  s.input.map (expect p f) ++ s.qRows.map f ++ wsFlight f s.ws ++ holdRows s.fHold ++ qIntRows s.qInt

theorem qIntRows_append (q : List (Option Row)) (x : Option Row) :
    qIntRows (q ++ [x]) = qIntRows q ++ (match x with | some r => [r] | none => []) := by
  induction q with
  | nil => cases x <;> rfl
  | cons y ys ih => cases y <;> simp [qIntRows, ih]

theorem step_conserves (s s' : St) (act : Actor) (h : step p f s act = some s') (a : Row) :
    s'.delivered.count a + (flight p f s').count a = s.delivered.count a + (flight p f s).count a := by
  have fl {i w} (hw : s.ws[i]? = some w) :=
    total_set (F := fun ws => (wsFlight f ws).count a) (g := fun w => (wFlight f w).count a)
      (fun _ _ => List.count_append) hw
  cases Step.of_step p f h with
  | prodSel hin hp | prodSkip hin hp =>
    simp +arith [flight, hin, List.count_append, List.count_cons, expect, hp, qIntRows_append]
  | prodNone => rfl
  | wGetRow hw hst hq | wGetNone hw hst hq =>
    obtain ⟨k, e, e'⟩ := fl hw
    simp +arith [flight, List.count_append, List.count_cons, wFlight, e, e', hst, hq]
  | wPutRow hw hst | wPutNone hw hst =>
    obtain ⟨k, e, e'⟩ := fl hw
    simp +arith [flight, List.count_append, List.count_cons, wFlight, e, e', hst]
  | fGetRow _ hh hw hc | fGetNone _ hh hw hc =>
    obtain ⟨k, e, e'⟩ := fl hw
    simp +arith [flight, List.count_append, List.count_cons, wFlight, holdRows, e, e', hh, hc]
  | fPutRow hh | fPutLast hh | fPutMore hh =>
    simp +arith [flight, List.count_append, List.count_cons, holdRows, hh, qIntRows_append]
  | collRow _ hq | collNone _ hq =>
    simp +arith [flight, List.count_append, List.count_cons, qIntRows, hq]

theorem wsFlight_nil : ∀ ws : List W, (∀ w ∈ ws, wFlight f w = []) → wsFlight f ws = []
  | [], _ => rfl
  | w :: ws, h => by
    rw [wsFlight, h w List.mem_cons_self, wsFlight_nil ws fun x hx => h x (List.mem_cons_of_mem _ hx)]; rfl

/-- producer invariant used by conservation: rows waiting in `q_in` satisfy the predicate -/
def QOk (s : St) : Prop := ∀ r ∈ s.qRows, p r = true

/-- **Conservation**: in every reachable state, delivered rows together with the rows still in
flight are exactly the sequential result, as multisets. -/
theorem C18_conservation (n : Nat) (input : List Row) (s : St) (h : Reach p f (initSt n input) s) (a : Row) :
    s.delivered.count a + (flight p f s).count a = (input.map (expect p f)).count a := by
  induction h with
  | refl =>
    have : wsFlight f (List.replicate n ⟨.idle, [], false, false⟩) = [] :=
      wsFlight_nil f _ fun w hw => by rw [(List.mem_replicate.1 hw).2]; rfl
    simp [initSt, flight, this, holdRows, qIntRows]
  | step act _ hstep ih => rw [step_conserves p f _ _ act hstep a, ih]

/-! ## C. invariants, deadlock freedom, exactly once -/

def cW (w : W) : Nat := if w.st = .gotNone ∨ w.st = .done then 1 else 0
def fW (w : W) : Nat := if w.fin then 1 else 0

def consW : List W → Nat
  | [] => 0
  | w :: ws => cW w + consW ws

def finW : List W → Nat
  | [] => 0
  | w :: ws => fW w + finW ws

/-- per-worker consistency: the marker is put exactly once, after the rows, when the worker is done -/
def WOk (w : W) : Prop :=
  (w.st ≠ .done → w.chNone = false ∧ w.fin = false) ∧
  (w.st = .done → w.chNone = !w.fin) ∧
  (w.fin = true → w.chRows = [])

def qIntOk (s : St) : Prop :=
  (s.fDone = false → ∀ x ∈ s.qInt, x ≠ none) ∧
  (s.fDone = true → s.cDone = false → ∃ rows : List Row, s.qInt = rows.map some ++ [none]) ∧
  (s.cDone = true → s.qInt = [] ∧ s.fDone = true)

structure Inv (n : Nat) (s : St) : Prop where
  len : s.ws.length = n
  markers : s.nonesLeft + s.qNones + consW s.ws = n
  inputMarks : s.input ≠ [] → s.nonesLeft = n
  wok : ∀ w ∈ s.ws, WOk w
  expLe : s.expected ≤ n
  finCount : finW s.ws = (n - s.expected) + (if s.fHold = some none then 1 else 0)
  fdone : s.fDone = true ↔ s.expected = 0
  qrows : 0 < consW s.ws → s.qRows = []
  fdoneHold : s.fDone = true → s.fHold = none
  qint : qIntOk s

theorem consW_eq_countP (ws : List W) : consW ws = ws.countP fun w => w.st = .gotNone ∨ w.st = .done := by
  induction ws with
  | nil => rfl
  | cons w ws ih => simp only [consW, cW, ih, List.countP_cons, decide_eq_true_eq]; omega

theorem finW_eq_countP (ws : List W) : finW ws = ws.countP (·.fin) := by
  induction ws with
  | nil => rfl
  | cons w ws ih => simp only [finW, fW, ih, List.countP_cons]; omega

/-- a worker whose marker the fetcher has taken has consumed it -/
theorem finW_le_consW {ws : List W} (h : ∀ w ∈ ws, WOk w) : finW ws ≤ consW ws := by
  rw [finW_eq_countP, consW_eq_countP]
  refine List.countP_mono_left fun w hw hf => ?_
  have := (h w hw).1
  simp_all

theorem consW_set {ws : List W} {i w} (hw : ws[i]? = some w) (w' : W) :
    consW (ws.set i w') + cW w = consW ws + cW w' := by
  obtain ⟨k, e, e'⟩ := total_set (F := consW) (g := cW) (fun _ _ => rfl) hw
  rw [e, e', Nat.add_right_comm]

theorem finW_set {ws : List W} {i w} (hw : ws[i]? = some w) (w' : W) :
    finW (ws.set i w') + fW w = finW ws + fW w' := by
  obtain ⟨k, e, e'⟩ := total_set (F := finW) (g := fW) (fun _ _ => rfl) hw
  rw [e, e', Nat.add_right_comm]

theorem Inv.wok_set {n s i} (hinv : Inv n s) {w' : W} (hok : WOk w') :
    (s.ws.set i w').length = n ∧ ∀ x ∈ s.ws.set i w', WOk x :=
  ⟨by simp [hinv.len], fun x hx => (List.mem_or_eq_of_mem_set hx).elim (hinv.wok x) (· ▸ hok)⟩

theorem Inv.setW {n s i w w'} (hinv : Inv n s) (hw : s.ws[i]? = some w) (hok : WOk w')
    (hc : cW w' = cW w) (hf : fW w' = fW w) : Inv n { s with ws := s.ws.set i w' } := by
  have ec : consW (s.ws.set i w') = consW s.ws := Nat.add_right_cancel (hc ▸ consW_set hw w')
  have ef : finW (s.ws.set i w') = finW s.ws := Nat.add_right_cancel (hf ▸ finW_set hw w')
  exact { hinv with
    len := (hinv.wok_set hok).1
    wok := (hinv.wok_set hok).2
    markers := ec ▸ hinv.markers
    finCount := ef ▸ hinv.finCount
    qrows := ec ▸ hinv.qrows }

theorem qIntOk.push {s : St} (h : qIntOk s) (hfd : s.fDone = false) (r : Row) :
    qIntOk { s with qInt := s.qInt ++ [some r] } := by
  refine ⟨fun _ x hx => ?_, fun hfd' => by simp [hfd] at hfd', fun hcd => ?_⟩
  · rcases List.mem_append.1 hx with hx | hx
    · exact h.1 hfd x hx
    · simp_all
  · cases hfd.symm.trans (h.2.2 hcd).2

theorem exists_map_some {α} : ∀ {q : List (Option α)}, (∀ x ∈ q, x ≠ none) → ∃ rows : List α, q = rows.map some
  | [], _ => ⟨[], rfl⟩
  | none :: _, h => absurd rfl (h none (List.mem_cons_self ..))
  | some r :: _, h =>
    let ⟨rows, e⟩ := exists_map_some fun x hx => h x (List.mem_cons_of_mem _ hx)
    ⟨r :: rows, e ▸ rfl⟩

theorem qIntOk.close {s : St} (h : qIntOk s) (hfd : s.fDone = false) :
    qIntOk { s with fDone := true, qInt := s.qInt ++ [none] } := by
  refine ⟨(nomatch ·), fun _ _ => ?_, fun hcd => ?_⟩
  · obtain ⟨rows, e⟩ := exists_map_some (h.1 hfd)
    exact ⟨rows, congrArg (· ++ [none]) e⟩
  · cases hfd.symm.trans (h.2.2 hcd).2

theorem qIntOk.popRow {s : St} {r q} (h : qIntOk s) (hc : s.cDone = false) (hq : s.qInt = some r :: q) :
    qIntOk { s with qInt := q } := by
  refine ⟨fun hfd x hx => h.1 hfd x (by simp [hq, hx]), fun hfd _ => ?_, by simp [hc]⟩
  obtain ⟨rows, hr⟩ := h.2.1 hfd hc
  cases rows with
  | nil => simp [hq] at hr
  | cons r0 rest => exact ⟨rest, by simp_all⟩

theorem qIntOk.popNone {s : St} {q} (h : qIntOk s) (hc : s.cDone = false) (hq : s.qInt = none :: q) :
    qIntOk { s with qInt := q, cDone := true } := by
  have hfd : s.fDone = true := eq_true_of_ne_false fun hfd => h.1 hfd none (hq ▸ List.mem_cons_self ..) rfl
  obtain ⟨rows, hr⟩ := h.2.1 hfd hc
  cases rows with
  | nil =>
    have : q = [] := by simpa [hq] using hr
    exact ⟨fun h => (nomatch hfd.symm.trans h), fun _ => (nomatch ·), fun _ => ⟨this, hfd⟩⟩
  | cons r0 rest => simp [hq] at hr

theorem inv_init (n : Nat) (hn : 1 ≤ n) (input : List Row) : Inv n (initSt n input) := by
  refine ⟨by simp [initSt], ?_, fun _ => rfl, ?_, Nat.le_refl n, ?_, by simp [initSt]; omega, ?_, fun _ => rfl, ?_⟩
  · simp [initSt, consW_eq_countP, List.countP_replicate]
  · intro w hw
    obtain ⟨_, rfl⟩ := List.mem_replicate.1 hw
    simp [WOk]
  · simp [initSt, finW_eq_countP, List.countP_replicate]
  · simp [initSt, consW_eq_countP, List.countP_replicate]
  · simp [qIntOk, initSt]

theorem Inv.fDone_of_input {n s} (hinv : Inv n s) (hn : 1 ≤ n) (hin : s.input ≠ []) : s.fDone = false :=
  eq_false_of_ne_true fun hfd => by
    -- done: all `n` markers taken, hence consumed; input left: none has been put yet
    have taken : finW s.ws = n := by simpa [hinv.fdone.1 hfd, hinv.fdoneHold hfd] using hinv.finCount
    have consumed := finW_le_consW hinv.wok
    have put := hinv.markers
    have unput := hinv.inputMarks hin
    omega

theorem inv_step (n : Nat) (hn : 1 ≤ n) (s s' : St) (act : Actor) (hinv : Inv n s)
    (h : step p f s act = some s') : Inv n s' := by
  -- the fetcher holds something, hence is not done
  have hfd {x} (hh : s.fHold = some x) : s.fDone = false :=
    eq_false_of_ne_true fun h => nomatch hh.symm.trans (hinv.fdoneHold h)
  have wok {i w} (hw : s.ws[i]? = some w) := hinv.wok w (List.mem_of_getElem? hw)
  cases Step.of_step p f h with
  | prodSel hin =>
    have hnl := hinv.inputMarks (by simp [hin])
    have := hinv.markers
    exact { hinv with inputMarks := fun _ => hnl, qrows := fun hc => by dsimp only at hc; omega }
  | prodSkip hin =>
    have hne : s.input ≠ [] := by simp [hin]
    exact { hinv with inputMarks := fun _ => hinv.inputMarks hne
                      qint := hinv.qint.push (hinv.fDone_of_input hn hne) _ }
  | prodNone hin hnl =>
    have := hinv.markers
    exact { hinv with markers := by dsimp only; omega
                      inputMarks := fun hne => absurd hin hne }
  | @wGetRow i w r q hw hst hq =>
    have hok := (wok hw).1 (by simp [hst])
    have := hinv.setW hw (w' := { w with st := .hold r }) (by simp [WOk, hok]) (by simp [cW, hst]) rfl
    exact { this with qrows := fun h => by simpa [hq] using this.qrows h }
  | @wGetNone i w hw hst hq hqn =>
    have hok := (wok hw).1 (by simp [hst])
    have hc := consW_set hw { w with st := .gotNone }
    have hm := hinv.markers
    simp [cW, hst] at hc
    exact { hinv with
      len := (hinv.wok_set (by simp [WOk, hok])).1
      wok := (hinv.wok_set (by simp [WOk, hok])).2
      markers := by dsimp only; omega
      finCount := (Nat.add_right_cancel (finW_set hw { w with st := .gotNone })).trans hinv.finCount
      qrows := fun _ => hq }
  | @wPutRow i w r hw hst =>
    have hok := (wok hw).1 (by simp [hst])
    exact hinv.setW hw (by simp [WOk, hok]) (by simp [cW, hst]) rfl
  | @wPutNone i w hw hst =>
    have hok := (wok hw).1 (by simp [hst])
    exact hinv.setW hw (by simp [WOk, hok]) (by simp [cW, hst]) rfl
  | @fGetRow i w r c hfd hh hw hr =>
    have hok := wok hw
    have := hinv.setW hw (w' := { w with chRows := c })
      ⟨hok.1, hok.2.1, fun hfin => by simp [hok.2.2 hfin] at hr⟩ rfl rfl
    exact { this with finCount := by simpa [hh] using this.finCount
                      fdoneHold := fun h => by simp [hfd] at h }
  | @fGetNone i w hfd hh hw hr hn =>
    have hok := wok hw
    have hst : w.st = .done := Decidable.byContradiction fun h => by simp [hok.1 h] at hn
    have hfin : w.fin = false := by simpa [hn] using hok.2.1 hst
    have hf := finW_set hw { w with chNone := false, fin := true }
    have ec := Nat.add_right_cancel (consW_set hw { w with chNone := false, fin := true })
    simp [fW, hfin] at hf
    exact { hinv with
      len := (hinv.wok_set (by simp [WOk, hst, hr])).1
      wok := (hinv.wok_set (by simp [WOk, hst, hr])).2
      markers := ec ▸ hinv.markers
      qrows := ec ▸ hinv.qrows
      finCount := by simp [hf, hinv.finCount, hh]
      fdoneHold := fun h => by simp [hfd] at h }
  | fPutRow hh =>
    exact { hinv with finCount := by simpa [hh] using hinv.finCount
                      fdoneHold := fun _ => rfl
                      qint := hinv.qint.push (hfd hh) _ }
  | fPutLast hh he =>
    have := hinv.finCount
    simp [hh, he] at this
    exact { hinv with expLe := Nat.zero_le _
                      finCount := by simp; omega
                      fdone := by simp
                      fdoneHold := fun _ => rfl
                      qint := hinv.qint.close (hfd hh) }
  | fPutMore hh he =>
    have hfc := hinv.finCount
    have := hinv.expLe
    have he0 := hinv.fdone
    simp [hh] at hfc
    simp [hfd hh] at he0
    exact { hinv with expLe := by dsimp only; omega
                      finCount := by simp; omega
                      fdone := by simp [hfd hh]; omega
                      fdoneHold := fun _ => rfl }
  | collRow hc hq => exact { hinv with qint := hinv.qint.popRow hc hq }
  | collNone hc hq => exact { hinv with qint := hinv.qint.popNone hc hq }

theorem inv_reach (n : Nat) (hn : 1 ≤ n) (input : List Row) (s : St) (h : Reach p f (initSt n input) s) : Inv n s := by
  induction h with
  | refl => exact inv_init n hn input
  | step act _ hstep ih => exact inv_step p f n hn _ _ act ih hstep

theorem countP_lt_length {α} {q : α → Bool} {l : List α} : l.countP q < l.length ↔ ∃ a ∈ l, ¬q a := by
  rw [List.countP_eq_length_filter, List.length_filter_lt_length_iff_exists]

theorem Step.enabled {s s' : St} {a : Actor} (h : Step p f s a s') : ∃ a, (step p f s a).isSome = true :=
  ⟨a, by rw [h.step_eq]; rfl⟩

/-- **No deadlock**: in every reachable state in which the collector has not received the end
marker, at least one actor can take a step — for every number of workers `n ≥ 1`. -/
theorem C18_no_deadlock (n : Nat) (hn : 1 ≤ n) (input : List Row) (s : St)
    (hr : Reach p f (initSt n input) s) (hc : s.cDone = false) : ∃ a, (step p f s a).isSome = true := by
  have inv := inv_reach p f n hn input s hr
  -- 1. something waiting for the collector
  match hq : s.qInt with
  | some r :: q => exact (Step.collRow hc hq).enabled
  | none :: q => exact (Step.collNone hc hq).enabled
  | [] =>
  have hfd : s.fDone = false := eq_false_of_ne_true fun hfd => by
    obtain ⟨rows, hrw⟩ := inv.qint.2.1 hfd hc; simp [hq] at hrw
  -- 2. the producer
  match hin : s.input with
  | r :: rs =>
    cases hp : p r
    · exact (Step.prodSkip hin hp).enabled
    · exact (Step.prodSel hin hp).enabled
  | [] =>
  by_cases hnl : 0 < s.nonesLeft
  · exact (Step.prodNone hin hnl).enabled
  -- 3. the fetcher holding something
  match hh : s.fHold with
  | some (some r) => exact (Step.fPutRow hh).enabled
  | some none =>
    by_cases he : s.expected = 1
    · exact (Step.fPutLast hh he).enabled
    · exact (Step.fPutMore hh he).enabled
  | none =>
  -- 4. the workers
  by_cases hall : ∀ w ∈ s.ws, w.st = .done
  · -- all have put their marker, the fetcher has not taken them all
    have hexp : 0 < s.expected := Nat.pos_of_ne_zero fun h0 => by simp [inv.fdone.2 h0] at hfd
    have hlt : finW s.ws < s.ws.length := by
      have hfc := inv.finCount; have := inv.len; have := inv.expLe; simp [hh] at hfc; omega
    obtain ⟨w, hw, hfin⟩ := countP_lt_length.1 (finW_eq_countP _ ▸ hlt)
    obtain ⟨i, hi⟩ := List.mem_iff_getElem?.1 hw
    have hcn : w.chNone = true := by simpa [hfin] using (inv.wok w hw).2.1 (hall w hw)
    match hcr : w.chRows with
    | r :: c => exact (Step.fGetRow hfd hh hi hcr).enabled
    | [] => exact (Step.fGetNone hfd hh hi hcr hcn).enabled
  · obtain ⟨w, hw, hst⟩ : ∃ w ∈ s.ws, w.st ≠ .done := by simpa using hall
    obtain ⟨i, hi⟩ := List.mem_iff_getElem?.1 hw
    match hst' : w.st with
    | .done => exact absurd hst' hst
    | .hold r => exact (Step.wPutRow hi hst').enabled
    | .gotNone => exact (Step.wPutNone hi hst').enabled
    | .idle =>
      match hqr : s.qRows with
      | r :: q => exact (Step.wGetRow hi hst' hqr).enabled
      | [] =>
        -- an idle worker has not consumed its marker, which the producer has put
        have : consW s.ws < s.ws.length := consW_eq_countP _ ▸ countP_lt_length.2 ⟨w, hw, by simp [hst']⟩
        have := inv.markers
        have := inv.len
        exact (Step.wGetNone hi hst' hqr (by omega)).enabled

/-- **Exactly once**: in every reachable state in which the collector has finished, the rows
delivered are a permutation of the sequential result: selected rows transformed exactly once,
the others untouched, none lost, none duplicated — for every schedule and every `n ≥ 1`. -/
theorem C18_exactly_once (n : Nat) (hn : 1 ≤ n) (input : List Row) (s : St)
    (hr : Reach p f (initSt n input) s) (hc : s.cDone = true) :
    s.delivered.Perm (input.map (expect p f)) := by
  have inv := inv_reach p f n hn input s hr
  obtain ⟨hq, hfd⟩ := inv.qint.2.2 hc
  have he := inv.fdone.1 hfd
  have hh := inv.fdoneHold hfd
  -- the fetcher has taken every marker: every worker is done, its channel empty
  have hfin : ∀ w ∈ s.ws, w.fin = true :=
    List.countP_eq_length.1 (by rw [← finW_eq_countP, inv.finCount, inv.len]; simp [he, hh])
  have hdone : ∀ w ∈ s.ws, w.st = .done ∧ w.chRows = [] := fun w hw =>
    ⟨Decidable.byContradiction fun hnd => by simpa [((inv.wok w hw).1 hnd).2] using hfin w hw,
      (inv.wok w hw).2.2 (hfin w hw)⟩
  have hcons : consW s.ws = s.ws.length := by
    rw [consW_eq_countP]; exact List.countP_eq_length.2 fun w hw => by simp [(hdone w hw).1]
  have hm := inv.markers
  have hlen := inv.len
  have hin : s.input = [] := Decidable.byContradiction fun hne => by have := inv.inputMarks hne; omega
  have hflight : flight p f s = [] := by
    simp [flight, hin, inv.qrows (by omega), wsFlight_nil f s.ws fun w hw => by simp [wFlight, hdone w hw], hh, holdRows, hq, qIntRows]
  rw [List.perm_iff_count]
  intro a
  simpa [hflight] using C18_conservation p f n input s hr a

/-- non-vacuity: one concrete schedule on 2 workers and 3 rows reaches a finished collector -/
example : (runSched (fun r => r % 2 == 0) (fun r => r + 100) (initSt 2 [2, 3, 4])
    [.prod, .prod, .prod, .prod, .prod, .wGet 1, .wGet 0, .wPut 0, .wPut 1, .wGet 0, .wGet 1, .wPut 0, .wPut 1,
     .fGet 0, .fPut, .fGet 1, .fPut, .fGet 0, .fPut, .fGet 1, .fPut, .coll, .coll, .coll, .coll]).delivered = [3, 104, 102] := by
  decide

end Df.Par
