import DfProps.C02

/-!
# C02 — unpivot keeps a resource conforming

Side conditions (what a well-typed use of `unpivot` supplies; the code checks none of them):
the resulting field names are distinct, the derived key values are valid for the `extra_keys`
fields, and a value valid for an unpivoted field's type is valid for `extra_value`'s type
(e.g. `extra_value` is `any`, or all unpivoted fields share its type).
-/

namespace Df

theorem unpivotPartition_rest_sub (O : ReOracle) (regex : Bool) :
    ∀ (us : List UnpivotField) (fields : List Field), ∀ f ∈ (unpivotPartition O regex us fields).2, f ∈ fields := by
  intro us
  induction us with
  | nil => intro fields f hf; simpa [unpivotPartition] using hf
  | cons u us ih =>
    intro fields f hf
    simp only [unpivotPartition] at hf
    have := ih _ f hf
    exact (List.mem_filter.mp this).1

theorem unpivotPartition_conf_field (O : ReOracle) (regex : Bool) :
    ∀ (us : List UnpivotField) (fields : List Field), ∀ c ∈ (unpivotPartition O regex us fields).1,
      ∃ f ∈ fields, f.name = c.field := by
  intro us
  induction us with
  | nil => intro fields c hc; simp [unpivotPartition] at hc
  | cons u us ih =>
    intro fields c hc
    simp only [unpivotPartition, List.mem_append, List.mem_map] at hc
    rcases hc with ⟨f, hf, rfl⟩ | hc
    · exact ⟨f, (List.mem_filter.mp hf).1, rfl⟩
    · obtain ⟨f, hf, hn⟩ := ih _ c hc
      exact ⟨f, (List.mem_filter.mp hf).1, hn⟩

theorem mapM_index_mem {row : Row} {keep : List String} {kept : List (String × Val)}
    (h : keep.mapM (fun k => do let v ← Row.index row k; pure (k, v)) = .ok kept) :
    ∀ kv ∈ kept, kv.1 ∈ keep ∧ kv ∈ row := fun kv hkv => by
  obtain ⟨k, hk, hkv⟩ := mapM_ok_mem h hkv
  obtain ⟨v, hv, hkv⟩ := (Except.bind_eq_ok _ _ _).mp hkv
  cases hkv
  exact ⟨hk, Row.mem_of_get? (Row.index_eq_ok.mp hv)⟩

theorem unpivotRes_ok {O : ReOracle} {regex : Bool} {us : List UnpivotField} {extraKeys : List Field} {extraValue : Field}
    {r r' : Res} (hr : unpivotRes O regex us extraKeys extraValue r = .ok r') :
    ∃ outs, r.rows.mapM (unpivotRow (unpivotPartition O regex us r.fields).1
        ((unpivotPartition O regex us r.fields).2.map Field.name) extraValue.name) = .ok outs ∧
      r' = { r with fields := (unpivotPartition O regex us r.fields).2 ++ extraKeys ++ [extraValue], rows := outs.flatten } := by
  obtain ⟨outs, houts, hr'⟩ := (Except.bind_eq_ok _ _ _).mp hr
  cases hr'; exact ⟨outs, houts, rfl⟩

theorem C02_preserve_unpivot (V : Valid) (O : ReOracle) (regex : Bool) (us : List UnpivotField)
    (extraKeys : List Field) (extraValue : Field) (r r' : Res) (h : ResOk V r)
    (hnd : (((unpivotPartition O regex us r.fields).2 ++ extraKeys ++ [extraValue]).map Field.name).Nodup)
    (hkeys : ∀ c ∈ (unpivotPartition O regex us r.fields).1, ∀ kv ∈ c.keys,
      ∃ f ∈ extraKeys, f.name = kv.1 ∧ (kv.2 = .null ∨ V f.type kv.2 = true))
    (hval : ∀ c ∈ (unpivotPartition O regex us r.fields).1, ∀ f ∈ r.fields, f.name = c.field →
      ∀ v, V f.type v = true → V extraValue.type v = true)
    (hr : unpivotRes O regex us extraKeys extraValue r = .ok r') : ResOk V r' := by
  obtain ⟨outs, houts, rfl⟩ := unpivotRes_ok hr
  have hrestsub := unpivotPartition_rest_sub O regex us r.fields
  generalize unpivotPartition O regex us r.fields = part at houts hnd hkeys hval hrestsub ⊢
  refine ⟨hnd, fun row' hrow' => ?_⟩
  -- the row comes from one input row and one configuration entry
  obtain ⟨grp, hgrp, hin⟩ := List.mem_flatten.mp hrow'
  obtain ⟨row, hrow, hgr⟩ := mapM_ok_mem houts hgrp
  obtain ⟨c, hc, hrow'⟩ := mapM_ok_mem hgr hin
  obtain ⟨kept, hkept, hrow'⟩ := (Except.bind_eq_ok _ _ _).mp hrow'
  cases hrow'
  have hrowOk := h.2 row hrow
  refine RowOk.set (RowOk.foldl_set ?_ ?_) (by simp) ?_
  · -- the derived keys
    exact RowOk.mono (hkeys c hc) fun f hf => by simp [hf]
  · -- a kept cell
    refine RowOk.mono (fs := part.2) (fun kv hk => ?_) fun f hf => by simp [hf]
    obtain ⟨hkeep, hmem⟩ := mapM_index_mem hkept kv hk
    exact hrowOk.cell_of_name h.1 hrestsub hmem hkeep
  · -- the value cell
    rcases Row.getD_null_or_mem row c.field with hnull | hmem
    · exact Or.inl hnull
    · obtain ⟨f, hf, hfn, hfv⟩ := hrowOk _ hmem
      exact hfv.imp_right (hval c hc f hf hfn _)

/-- a two-column unpivot: the result has the documented shape -/
example :
    let O : ReOracle := ⟨fun _ _ => false, fun p s => p == "y(\\d+)" && (s == "y1" || s == "y2"),
                         fun _ r s => if r == "\\1" then (s.drop 1).toString else r⟩
    (unpivotRes O true [{ name := "y(\\d+)", keys := [("year", .str "\\1")] }]
        [⟨"year", "string", ""⟩] ⟨"value", "any", ""⟩
        { name := "t", fields := [⟨"id", "integer", ""⟩, ⟨"y1", "integer", ""⟩, ⟨"y2", "integer", ""⟩],
          rows := [[("id", .int 7), ("y1", .int 10), ("y2", .null)]] }).toOption.map
      (fun r => (r.fieldNames, r.rows)) =
    some (["id", "year", "value"],
          [[("year", .str "1"), ("id", .int 7), ("value", .int 10)],
           [("year", .str "2"), ("id", .int 7), ("value", .null)]]) := by decide +kernel

end Df
