import DfProps.TieLoop
import DfModel.Steps

/-!
# Tie (C17): the row loops of `filter_rows` and `deduplicate` **as written in /repo now**

`filter_rows.process_resource` (`for row in rows: if condition(row): yield row`) is re-translated on every run;
`Tie_filter_process`: for every condition (an external callable that may raise) and every list of rows, the
generator's value is the filter — the rows whose condition is truthy, in order, nothing else; an exception of the
condition is the exception of the step.

`deduplicate.deduper` is tied in the same way: `Tie_deduper` (with a primary key the generator's value is, in order, the first
row of each distinct key value) and `Tie_deduper_nopk` (without one, every row).
-/

namespace Df.Tie
open Df Df.Py

/-- the specification: keep the rows whose condition is truthy (an error of the condition propagates) -/
def filterSpec (c : PV → Except Err PV) : List PV → Except Err (List PV)
  | [] => .ok []
  | r :: rs => do
    let b ← c r
    let rs' ← filterSpec c rs
    pure (if b.truthy then r :: rs' else rs')

/-- the user's condition as an external callable -/
def extCond (c : PV → Except Err PV) : Ext := fun f args =>
  match f, args with
  | "condition", [r] => c r
  | _, _ => .error (.missingExt f)

/-- what one iteration does, for any loop body that behaves like `if condition(row): yield row` -/
def FilterBody (c : PV → Except Err PV) (body : St → Except Err (Ctl × St)) : Prop :=
  ∀ env out v, body { env := ("row", v) :: env, out := out } =
    (c v).bind (fun b => .ok (.next, { env := ("row", v) :: env, out := if b.truthy then out ++ [v] else out }))

theorem filter_loop (c : PV → Except Err PV) (body : St → Except Err (Ctl × St)) (hb : FilterBody c body)
    (rows : List PV) (st : St) :
    (loopFor body (bind1 "row") rows st).map (fun r => r.2.out) = (filterSpec c rows).map (fun l => st.out ++ l) := by
  induction rows generalizing st with
  | nil => simp [loopFor, filterSpec, Except.map]
  | cons r rs ih =>
    have hb' := hb st.env st.out r
    simp only [loopFor, filterSpec, bind1, bind, Env.set, Except.bind]
    rw [hb']
    cases hc : c r with
    | error e => simp [Except.map, Except.bind]
    | ok b =>
      simp only [Except.bind]
      rw [ih]
      cases filterSpec c rs with
      | error e => simp [Except.map]
      | ok l => by_cases h : b.truthy = true <;> simp [Except.map, pure, Except.pure, h]

theorem Tie_filter_process (c : PV → Except Err PV) (rows : List PV) (cond : PV) :
    callFn (extCond c) Live.Py.filter_process [.list rows, cond] = (filterSpec c rows).map PV.list := by
  rw [callFn_gen _ _ rfl]
  simp only [Live.Py.filter_process, bindParams, Env.set, Except.bind]
  rw [exec_forIn_var _ _ _ _ _ rows (by simp [Env.get, lookup_cons, Except.bind]), filter_loop c _ fun env out v => by
    simp only [exec, evalE, evalArgs, applyFn, get_cons, if_true, bind, Except.bind]
    rw [extCond]
    cases c v with
    | error e => rfl
    | ok b => by_cases h : b.truthy = true <;> simp [h]]
  cases filterSpec c rows <;> rfl

/-- `filterSpec` over embedded rows is the model's `filterM` (the one `C17_filter_eq_filter` / `C17_filter_subseq` are about),
for any embedding of rows and any condition that agrees with the model's -/
theorem filterSpec_model {α} (emb : α → PV) (c : PV → Except Err PV) (cM : α → Except Err Bool)
    (hc : ∀ r, c (emb r) = (cM r).map PV.bool) (filterM : (α → Except Err Bool) → List α → Except Err (List α))
    (hnil : filterM cM [] = .ok [])
    (hcons : ∀ r rs, filterM cM (r :: rs) = (cM r).bind (fun b => (filterM cM rs).bind (fun rs' => pure (if b then r :: rs' else rs'))))
    (rows : List α) :
    filterSpec c (rows.map emb) = (filterM cM rows).map (List.map emb) := by
  induction rows with
  | nil => simp [filterSpec, hnil, Except.map]
  | cons r rs ih =>
    simp only [List.map_cons, filterSpec, hcons, hc, ih, bind, Except.bind]
    cases cM r with
    | error e => simp [Except.map]
    | ok b =>
      cases filterM cM rs with
      | error e => simp [Except.map]
      | ok rs' => cases b <;> simp [Except.map, pure, Except.pure]

theorem Tie_filter_model (emb : Row → PV) (c : PV → Except Err PV) (cM : Row → Except Err Bool)
    (hc : ∀ r, c (emb r) = (cM r).map PV.bool) (rows : List Row) (cond : PV) :
    callFn (extCond c) Live.Py.filter_process [.list (rows.map emb), cond]
      = (Df.filterM cM rows).map (fun rs => PV.list (rs.map emb)) := by
  rw [Tie_filter_process, filterSpec_model emb c cM hc Df.filterM (by rfl) (by intro r rs; rfl) rows]
  cases Df.filterM cM rows <;> simp [Except.map]

/-- `tuple(row[k] for k in pk)` -/
def keyOfPV (pk : List PV) (row : PV) : Except Err PV :=
  (pk.mapM (fun k => opGetitem [row, k])).map PV.tuple

/-- the specification: in order, the first row of each distinct key (`seen` = keys met so far, in order) -/
def dedupSpec (pk : List PV) : List PV → List PV → Except Err (List PV)
  | [], _ => .ok []
  | r :: rs, seen => do
    let k ← keyOfPV pk r
    if PV.elem k seen then dedupSpec pk rs seen
    else do
      let rest ← dedupSpec pk rs (seen ++ [k])
      pure (r :: rest)

theorem compLoop_list (f : PV → Except Err PV) (g : PV → Except Err (Option PV))
    (hg : ∀ v, g v = (f v).map some) (xs acc : List PV) :
    compLoop .list g xs acc = (xs.mapM f).map (fun l => PV.list (acc ++ l)) := by
  induction xs generalizing acc with
  | nil => simp [compLoop, Except.map, pure, Except.pure]
  | cons x xs ih =>
    simp only [compLoop, bind, List.mapM_cons]
    rw [hg]
    cases hf : f x with
    | error e => simp [Except.map, Except.bind]
    | ok r =>
      simp only [Except.map, Except.bind]
      rw [ih]
      cases List.mapM f xs <;> simp [Except.map, pure, Except.pure]

/-- the key comprehension `row[k] for k in pk` -/
def keyComp : E :=
  .comp .list (.call .getitem (.cons (.var "row") (.cons (.var "k") .nil))) "k" (.var "pk") (.const (.bool true))

theorem keyComp_eval (ext : Ext) (env : Env) (pk : List PV) (r : PV)
    (hrow : env.lookup "row" = some r) (hpk : env.lookup "pk" = some (.list pk)) :
    evalE ext env keyComp = (pk.mapM (fun k => opGetitem [r, k])).map PV.list := by
  unfold keyComp
  simp only [evalE, Env.get, hpk, iterOf, bind, Except.bind]
  rw [compLoop_list (fun k => opGetitem [r, k]) _ (fun v => by
    simp [evalE, evalArgs, applyFn, builtinOp, Env.get, Env.set, lookup_cons, PV.truthy, bind, Except.bind, Except.map, pure,
      Except.pure, hrow])]
  rfl

def dedupBody : S :=
  (.seq (.assign "key" (.call .tuple_ (.cons keyComp .nil)))
    (.seq (.ite (.call .in_ (.cons (.var "key") (.cons (.var "keys") .nil))) .continue_ .skip)
      (.seq (.mut "keys" "add" (.cons (.var "key") .nil)) (.yield (.var "row")))))

def DedupEnv (pk seen : List PV) (env : Env) : Prop :=
  env.lookup "pk" = some (.list pk) ∧ env.lookup "keys" = some (.set seen)

def dedupEnv' (seen : List PV) (env : Env) (r k : PV) : Env :=
  if PV.elem k seen then ("key", k) :: ("row", r) :: env
  else ("keys", .set (seen ++ [k])) :: ("key", k) :: ("row", r) :: env

theorem dedup_key_eval (ext : Ext) (pk : List PV) (env : Env) (out : List PV) (r : PV) (hpk : env.lookup "pk" = some (.list pk)) :
    exec ext (.assign "key" (.call .tuple_ (.cons keyComp .nil))) { env := ("row", r) :: env, out := out } =
      (keyOfPV pk r).map (fun k => (.next, { env := ("key", k) :: ("row", r) :: env, out := out })) := by
  have hcomp := keyComp_eval ext (("row", r) :: env) pk r (by simp) (by simp [lookup_cons, hpk])
  generalize keyComp = C at hcomp ⊢
  simp only [exec, evalE, evalArgs, applyFn, builtinOp, Env.set, bind, Except.bind, hcomp, keyOfPV]
  cases List.mapM (fun k => opGetitem [r, k]) pk <;> rfl

theorem dedup_body_step (ext : Ext) (pk seen : List PV) (env : Env) (out : List PV) (r : PV) (h : DedupEnv pk seen env) :
    exec ext dedupBody { env := ("row", r) :: env, out := out } =
      (keyOfPV pk r).bind (fun k =>
        if PV.elem k seen then .ok (.cont, { env := dedupEnv' seen env r k, out := out })
        else .ok (.next, { env := dedupEnv' seen env r k, out := out ++ [r] })) := by
  rw [dedupBody, exec_seq_map _ _ _ _ _ _ (dedup_key_eval ext pk env out r h.1)]
  congr 1; funext k
  by_cases he : PV.elem k seen = true <;>
    simp [pyl, get_of_lookup h.2, he, dedupEnv']

theorem dedup_loop (ext : Ext) (pk : List PV) (rows seen : List PV) (st : St) (h : DedupEnv pk seen st.env) :
    (loopFor (exec ext dedupBody) (bind1 "row") rows st).map (fun r => r.2.out)
      = (dedupSpec pk rows seen).map (fun l => st.out ++ l) := by
  induction rows generalizing seen st with
  | nil => simp [loopFor, dedupSpec, Except.map]
  | cons r rs ih =>
    have hb := dedup_body_step ext pk seen st.env st.out r h
    simp only [loopFor, dedupSpec, bind1, bind, Env.set, Except.bind]
    rw [hb]
    cases hk : keyOfPV pk r with
    | error e => simp [Except.map, Except.bind]
    | ok k =>
      have hinv : DedupEnv pk (if PV.elem k seen then seen else seen ++ [k]) (dedupEnv' seen st.env r k) := by
        by_cases he : PV.elem k seen = true <;> simp [dedupEnv', DedupEnv, he, lookup_cons, h.1, h.2]
      simp only [Except.bind]
      by_cases he : PV.elem k seen = true
      · simp only [he, if_true] at hinv ⊢
        rw [ih seen _ hinv]
      · simp only [he] at hinv ⊢
        simp only [Bool.false_eq_true, if_false] at hinv ⊢
        rw [ih (seen ++ [k]) _ hinv]
        cases dedupSpec pk rs (seen ++ [k]) <;> simp [Except.map, pure, Except.pure]

/-- a ResourceWrapper-like object: `rows.res.descriptor['schema']` and the rows it iterates over -/
def rowsObj (schema : List (PV × PV)) (rows : List PV) : PV :=
  .dict [(.str "res", .dict [(.str "descriptor", .dict [(.str "schema", .dict schema)])]), (.str "__iter__", .list rows)]

theorem deduper_body_is : Live.Py.deduper.body =
    (.seq (.assign "pk" (.call .get (.cons (.call .getitem (.cons (.call .attr (.cons (.call .attr (.cons (.var "rows")
        (.cons (.const (.str "res")) .nil))) (.cons (.const (.str "descriptor")) .nil))) (.cons (.const (.str "schema")) .nil)))
        (.cons (.const (.str "primaryKey")) (.cons (.call .mkList .nil) .nil)))))
      (.ite (.call .eq (.cons (.call .len (.cons (.var "pk") .nil)) (.cons (.const (.int 0)) .nil))) (.yieldFrom (.var "rows"))
        (.seq (.assign "keys" (.call .set_ .nil)) (.forIn "row" (.var "rows") dedupBody)))) := by rfl

theorem deduper_eval (ext : Ext) (sch : List (PV × PV)) (pk rows : List PV)
    (hpk : (PV.lookup (.str "primaryKey") sch).getD (.list []) = .list pk) :
    callFn ext Live.Py.deduper [rowsObj sch rows] =
      if pk = [] then .ok (.list rows)
      else ((loopFor (exec ext dedupBody) (bind1 "row") rows
        { env := [("keys", .set []), ("pk", .list pk), ("rows", rowsObj sch rows)] }).map fun r => r.2.out).map PV.list := by
  rw [callFn_gen _ _ rfl, deduper_body_is, show Live.Py.deduper.params = ["rows"] from rfl]
  have hlen : ((pk.length : Int) == 0) = decide (pk = []) := by cases pk <;> simp; omega
  by_cases h : pk = [] <;>
    simp [pyl, rowsObj, iterLazy, hpk, hlen, h]

/-- `deduper`: with a primary key, in order the first row of each distinct key value (nothing else, nothing twice) -/
theorem Tie_deduper (ext : Ext) (pk : List PV) (hpk : pk ≠ []) (rows : List PV) :
    callFn ext Live.Py.deduper [rowsObj [(.str "fields", .list []), (.str "primaryKey", .list pk)] rows]
      = (dedupSpec pk rows []).map PV.list := by
  rw [deduper_eval ext _ pk rows (by simp [PV.lookup, PV.beq]), if_neg hpk,
    dedup_loop ext pk rows [] _ (by simp [DedupEnv, lookup_cons])]
  cases dedupSpec pk rows [] <;> rfl

/-- `deduper` without a primary key (absent or empty): every row, unchanged -/
theorem Tie_deduper_nopk (ext : Ext) (rows : List PV) :
    callFn ext Live.Py.deduper [rowsObj [(.str "fields", .list [])] rows] = .ok (.list rows)
    ∧ callFn ext Live.Py.deduper [rowsObj [(.str "fields", .list []), (.str "primaryKey", .list [])] rows] = .ok (.list rows) :=
  ⟨by rw [deduper_eval ext _ [] rows (by simp [PV.lookup, PV.beq]), if_pos rfl],
   by rw [deduper_eval ext _ [] rows (by simp [PV.lookup, PV.beq]), if_pos rfl]⟩

end Df.Tie
