import DfModel.Ejson

/-!
# C07 — resuming from a checkpoint reproduces the first run (codec part)

The extended-JSON codec round-trips.  The other parts of C07 (framing of the stream file, histories of runs and
deletions, chains of checkpoints: `C07_stream_unstream`, `C07_history`, `C07_chain_*`) are about the
`DfModel.Checkpoint` model and stand in `DfProps/C08.lean` next to C08.
-/

namespace Df.Ejson

theorem digit_roundtrip : ∀ k, k < 10 → digit? (digitChar k) = some k := by decide

theorem digits2 (n : Nat) (h : n < 100) : n / 10 % 10 * 10 + n % 10 = n := by
  rw [Nat.mod_eq_of_lt (Nat.div_lt_of_lt_mul h), Nat.div_add_mod']

theorem digits4 (n : Nat) (h : n < 10000) : n / 1000 % 10 * 1000 + n / 100 % 10 * 100 + n / 10 % 10 * 10 + n % 10 = n := by
  -- Horner: n = 10 (10 (10 (n/1000) + n/100%10) + n/10%10) + n%10
  have e1 := Nat.div_add_mod n 10
  have e2 : 10 * (n / 100) + n / 10 % 10 = n / 10 := Nat.div_div_eq_div_mul n 10 10 ▸ Nat.div_add_mod (n / 10) 10
  have e3 : 10 * (n / 1000) + n / 100 % 10 = n / 100 := Nat.div_div_eq_div_mul n 100 10 ▸ Nat.div_add_mod (n / 100) 10
  rw [Nat.mod_eq_of_lt (Nat.div_lt_of_lt_mul h)]
  conv => rhs; rw [← e1, ← e2, ← e3]
  simp +arith

theorem digit_mod (n : Nat) : digit? (digitChar (n % 10)) = some (n % 10) :=
  digit_roundtrip _ (Nat.mod_lt _ (by decide))

theorem num2_pad2 (n : Nat) (h : n < 100) : num2? (pad2 n).toList = some n := by
  simp only [pad2, String.toList_ofList, num2?, digit_mod, bind, Option.bind, pure, digits2 n h]

theorem num4_pad4 (n : Nat) (h : n < 10000) : num4? (pad4 n).toList = some n := by
  simp only [pad4, String.toList_ofList, num4?, digit_mod, bind, Option.bind, pure, digits4 n h]

theorem fmtDate_toList (y m d : Nat) :
    (fmtDate y m d).toList = (pad4 y).toList ++ '-' :: (pad2 m).toList ++ '-' :: (pad2 d).toList := by
  simp [fmtDate, String.toList_append]

theorem parseDateChars_fmt (y m d : Nat) (hy : y < 10000) (hm : m < 100) (hd : d < 100) :
    parseDateChars (fmtDate y m d).toList = some (y, m, d) := by
  have e1 := num4_pad4 y hy
  have e2 := num2_pad2 m hm
  have e3 := num2_pad2 d hd
  simp only [pad4, pad2, String.toList_ofList] at e1 e2 e3
  simp only [fmtDate_toList, pad4, pad2, String.toList_ofList, List.cons_append, List.nil_append, parseDateChars,
    e1, e2, e3, bind, Option.bind, pure]

theorem parseTimeChars_fmt (h mi s : Nat) (hh : h < 100) (hm : mi < 100) (hs : s < 100) :
    parseTimeChars (fmtTime h mi s).toList = some (h, mi, s) := by
  have e1 := num2_pad2 h hh
  have e2 := num2_pad2 mi hm
  have e3 := num2_pad2 s hs
  simp only [pad2, String.toList_ofList] at e1 e2 e3
  simp only [fmtTime, String.toList_append, show (":" : String).toList = [':'] from rfl, pad2,
    String.toList_ofList, List.cons_append, List.nil_append, parseTimeChars,
    e1, e2, e3, bind, Option.bind, pure]

theorem parseDateTime_fmt (y m d h mi s : Nat) (hy : y < 10000) (hm : m < 100) (hd : d < 100)
    (hh : h < 100) (hmi : mi < 100) (hs : s < 100) :
    parseDateTime (fmtDate y m d ++ "T" ++ fmtTime h mi s) = some ((y, m, d), (h, mi, s)) := by
  -- the date part is ten characters long, so `splitAt 10` cuts right before the `T`
  have hsplit : (fmtDate y m d ++ "T" ++ fmtTime h mi s).toList.splitAt 10 =
      ((fmtDate y m d).toList, 'T' :: (fmtTime h mi s).toList) := by
    simp only [String.toList_append, fmtDate_toList, pad4, pad2, String.toList_ofList]
    rfl
  simp only [parseDateTime, hsplit, parseDateChars_fmt y m d hy hm hd, parseTimeChars_fmt h mi s hh hmi hs, bind,
    Option.bind, pure]

theorem lookup_none_of_lookupKey (k : String) : ∀ kvs : List (String × V), lookupKey k kvs = false → lookup k kvs = none := by
  intro kvs
  induction kvs with
  | nil => intro _; rfl
  | cons kv rest ih =>
    obtain ⟨k', v⟩ := kv
    intro h
    simp only [lookupKey, Bool.or_eq_false_iff] at h
    have hk : k' ≠ k := by intro he; subst he; simp at h
    simp [lookup, hk, ih h.2]

theorem hook_plain (L : Leaf) (kvs : List (String × V)) (h : ∀ k ∈ tagKeys, lookupKey k kvs = false) :
    hook L kvs = .obj kvs := by
  have hk : ∀ k ∈ tagKeys, lookup k kvs = none := fun k hk => lookup_none_of_lookupKey k kvs (h k hk)
  simp only [tagKeys, List.forall_mem_cons, List.not_mem_nil, false_imp_iff, implies_true, and_true] at hk
  obtain ⟨h1, h2, h3, h4, h5, h6⟩ := hk
  simp [hook, h1, h2, h3, h4, h5, h6]

mutual
  /-- **C07 (codec).** `loads(dumps(v)) = v` for every value of the claimed domain: decimals,
  dates, times, naive and zone-aware datetimes with *any* UTC offset (negative included),
  durations, sets, and arbitrarily nested arrays / objects of those. -/
  theorem C07_ejson_roundtrip (L : Leaf) : (v : V) → WF L v → dec L (enc v) = v
    | .null, _ => rfl
    | .bool _, _ => rfl
    | .int _, _ => rfl
    | .flt _, _ => rfl
    | .str _, _ => rfl
    | .dec t, h => by
      simp only [WF] at h
      simp [enc, dec, decKvs, hook, lookup, h]
    | .date y m d, h => by
      simp only [WF] at h
      simp [enc, dec, decKvs, hook, lookup, parseDate, parseDateChars_fmt y m d h.1 h.2.1 h.2.2]
    | .time hh mi s, h => by
      simp only [WF] at h
      simp [enc, dec, decKvs, hook, lookup, parseTime, parseTimeChars_fmt hh mi s h.1 h.2.1 h.2.2]
    | .dtime y m d hh mi s tz, h => by
      simp only [WF] at h
      have := parseDateTime_fmt y m d hh mi s h.1 h.2.1 h.2.2.1 h.2.2.2.1 h.2.2.2.2.1 h.2.2.2.2.2
      cases tz with
      | none => simp [enc, dec, decKvs, decList, hook, lookup, this]
      | some on => obtain ⟨o, n⟩ := on; simp [enc, dec, decKvs, decList, hook, lookup, this]
    | .dur t, h => by
      simp only [WF] at h
      simp [enc, dec, decKvs, hook, lookup, h]
    | .set xs, h => by
      simp only [WF] at h
      have := roundtripList L xs h
      simp [enc, dec, decKvs, hook, lookup, this]
    | .arr xs, h => by
      simp only [WF] at h
      simp [enc, dec, roundtripList L xs h]
    | .obj kvs, h => by
      simp only [WF] at h
      simp only [enc, dec, roundtripKvs L kvs h.1]
      exact hook_plain L kvs h.2
  theorem roundtripList (L : Leaf) : (xs : List V) → WFList L xs → decList L (encList xs) = xs
    | [], _ => rfl
    | x :: xs, h => by
      simp only [WFList] at h
      simp [encList, decList, C07_ejson_roundtrip L x h.1, roundtripList L xs h.2]
  theorem roundtripKvs (L : Leaf) : (kvs : List (String × V)) → WFKvs L kvs → decKvs L (encKvs kvs) = kvs
    | [], _ => rfl
    | (k, v) :: rest, h => by
      simp only [WFKvs] at h
      simp [encKvs, decKvs, C07_ejson_roundtrip L v h.1, roundtripKvs L rest h.2]
end

/-- Why the codec stores `utcoffset().total_seconds()` and not `utcoffset().seconds`: the latter is the
offset modulo one day, so a negative offset would not survive (`-18000 ↦ 68400`). -/
theorem C07_offset_seconds_field_witness : ((-18000 : Int) % 86400) ≠ -18000 := by decide

/-- non-vacuity: a nested value with a negative-offset datetime inside a set inside an object -/
example : dec ⟨fun _ => true, fun _ => true⟩ (enc (.obj [("k", .set [.dtime 2020 1 2 3 4 5 (some (-18000, "EST")), .dec "1.50"]),
    ("d", .arr [.date 999 12 31, .time 23 59 59, .null])])) =
    .obj [("k", .set [.dtime 2020 1 2 3 4 5 (some (-18000, "EST")), .dec "1.50"]),
          ("d", .arr [.date 999 12 31, .time 23 59 59, .null])] := by
  apply C07_ejson_roundtrip
  simp [WF, WFKvs, WFList, tagKeys, lookupKey]

end Df.Ejson
