import DfProps.TieVLoop
import DfProps.TieValidate

/-!
# Tie (C14): the loop of `schema_validator` in the code = the model's `validateFrom`

By `Tie_vloop` the translated loop is the recursion `vLoop` over Python values.  Here `vLoop`, run on embedded rows with
a cast function that agrees with the model's `cast` and with the handler of a policy (`Hof`: what `ignore`, `drop`,
`clear`, `raise_exception` and a pure custom handler do — cf. `Tie_handler_*`), is shown to have the same outcome as the
model's `validateFrom`: the same rows, embedded, or an error on both sides.  Together: the C14 theorems about
`schemaValidator` (`C14_drop_exact`, `C14_clear_exact`, …) speak about the translated loop of base/schema_validator.py.
-/

namespace Df.Tie
open Df Df.Py

def fieldPV (f : String) : PV := .dict [(.str "name", .str f)]
def resPV (name : String) : PV := .dict [(.str "name", .str name)]

/-- the Python-level cast function agrees with the model's `cast` on embedded values -/
def Compat (c : CastFn) (cast : Cast) : Prop :=
  ∀ f v, c (fieldPV f) (embVal v) = match cast f v with
    | some v' => .ok (embVal v')
    | none => .error (.user "CastError")

/-- what the handler of each policy does with (row, index, field) -/
def Hof : Policy → Handler
  | .ignore => fun row _ _ => .ok (true, row)
  | .drop => fun row _ _ => .ok (false, row)
  | .clear => fun row _ fld => do
      let nm ← opAttr [fld, .str "name"]
      let row' ← mutate "setitem" row [nm, .none]
      .ok (true, row')
  | .raise => fun _ _ _ => .error (.user "ValidationError")
  | .custom keep => fun row i fld =>
      match fld with
      | .dict [(.str "name", .str f)] => .ok (keep i f, row)
      | _ => .error (.typeError "field")

/-- both fail, or both succeed with the embedded value -/
def SameOutcome {α β} (emb : α → β) (a : Except Err α) (b : Except Err β) : Prop :=
  match a, b with
  | .ok x, .ok y => y = emb x
  | .error _, .error _ => True
  | _, _ => False

theorem sameOutcome_iff_sim {α β} {emb : α → β} {a : Except Err α} {b : Except Err β} :
    SameOutcome emb a b ↔ Sim AnyErr (fun x y => y = emb x) a b := by
  cases a <;> cases b <;> exact Iff.rfl

theorem SameOutcome.bind {α β α' β'} {emb : α → β} {emb' : α' → β'} {a : Except Err α} {b : Except Err β}
    {f : α → Except Err α'} {g : β → Except Err β'} (h : SameOutcome emb a b) (hfg : ∀ x, SameOutcome emb' (f x) (g (emb x))) :
    SameOutcome emb' (a >>= f) (b >>= g) :=
  sameOutcome_iff_sim.2 <| (sameOutcome_iff_sim.1 h).bind fun x _ hxy => hxy ▸ sameOutcome_iff_sim.1 (hfg x)

theorem tryBody_model (c : CastFn) (cast : Cast) (hc : Compat c cast) (row : Row) (f : String) :
    tryBody c (embRow row) (fieldPV f) = match cast f (Row.getD row f) with
      | some v => .ok (embRow (Row.set row f v))
      | none => .error (.user "CastError") := by
  have hget : opGet [embRow row, PV.str f] = .ok (embVal (Row.getD row f)) := opGet_rowPV embVal embVal_null row f
  simp only [tryBody, fieldPV, opAttr, PV.lookup_cons_str, if_true, bind, Except.bind, hget]
  have := hc f (Row.getD row f)
  simp only [fieldPV] at this
  rw [this]
  cases cast f (Row.getD row f) with
  | none => rfl
  | some v => simp [mutate, embRow, dset_str embVal]

theorem vField_model (c : CastFn) (cast : Cast) (hc : Compat c cast) (pol : Policy) (rn : String) (i : Nat)
    (row : Row) (okay : Bool) (f : String) :
    SameOutcome (fun p : Row × Bool => (embRow p.1, p.2)) (castField cast pol rn i (row, okay) f)
      (vField c (Hof pol) (resPV rn) i (embRow row, okay) (fieldPV f)) := by
  have ht := tryBody_model c cast hc row f
  unfold vField castField
  simp only [ht]
  cases hcast : cast f (Row.getD row f) with
  | some v => simp [SameOutcome]
  | none =>
    have hnull := dset_str embVal row f .null
    simp only [embVal_null] at hnull
    cases pol with
    | raise | drop | ignore => simp [SameOutcome, Hof, resPV, opGetitem, PV.lookup_cons_str, bind, Except.bind]
    | clear =>
      simp [SameOutcome, Hof, resPV, fieldPV, opGetitem, opAttr, mutate, embRow, PV.lookup_cons_str, bind, Except.bind, hnull]
    | custom keep =>
      simp [SameOutcome, Hof, resPV, fieldPV, opGetitem, PV.lookup_cons_str, bind, Except.bind]
      cases keep i f <;> simp

theorem vFields_model (c : CastFn) (cast : Cast) (hc : Compat c cast) (pol : Policy) (rn : String) (i : Nat)
    (fields : List String) (row : Row) (okay : Bool) :
    SameOutcome (fun p : Row × Bool => (embRow p.1, p.2)) (fields.foldlM (castField cast pol rn i) (row, okay))
      (vFields c (Hof pol) (resPV rn) i (embRow row, okay) (fields.map fieldPV)) := by
  induction fields generalizing row okay with
  | nil => simp [SameOutcome, vFields, pure, Except.pure]
  | cons f fs ih => exact (vField_model c cast hc pol rn i row okay f).bind fun p => ih p.1 p.2

theorem vLoop_model (c : CastFn) (cast : Cast) (hc : Compat c cast) (pol : Policy) (rn : String) (fields : List String)
    (i : Nat) (rows : List Row) :
    SameOutcome (fun rs : List Row => rs.map embRow) (validateFrom cast pol rn fields i rows)
      (vLoop c (Hof pol) (resPV rn) (fields.map fieldPV) i (rows.map embRow)) := by
  induction rows generalizing i with
  | nil => simp [SameOutcome, validateFrom, vLoop]
  | cons row rest ih =>
    refine (vFields_model c cast hc pol rn i fields row true).bind fun p => (ih (i + 1)).bind fun tail => ?_
    cases p.2 <;> simp [SameOutcome, pure, Except.pure]

/-- **C14, end to end**: the translated loop of base/schema_validator.py, run on embedded rows with a cast function that
agrees with the model's and the handler of a policy, emits exactly the rows the model's `schemaValidator` emits (embedded),
and fails exactly when the model fails -/
theorem Tie_vloop_model (c : CastFn) (cast : Cast) (hc : Compat c cast) (pol : Policy) (rn : String)
    (fields : List String) (rows : List Row) :
    SameOutcome (fun rs : List Row => rs.map embRow) (schemaValidator cast pol rn fields rows)
      ((exec (extV c (Hof pol)) Live.Py.loop_schema_validator.body
          { env := [("iterator", .list (rows.map embRow)), ("schema_fields", .list (fields.map fieldPV)), ("resource", resPV rn)],
            out := [] }).map (fun r => r.2.out)) := by
  rw [Tie_vloop]
  exact vLoop_model c cast hc pol rn fields 0 rows

/-- the hypothesis is satisfiable: a cast that accepts integers only, embedded -/
example : Compat (fun _ v => match v with | .int i => .ok (.int i) | .none => .ok .none | _ => .error (.user "CastError"))
    (fun _ v => match v with | .int i => some (.int i) | .null => some .null | _ => none) := by
  intro f v; cases v <;> simp [embVal]

end Df.Tie
