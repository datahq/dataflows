import DfProps.TieLoop

/-!
# Tie (C14): the loop of `schema_validator` **as written in /repo now**

    for i, row in enumerate(iterator):
        field = None; okay = True
        for field in schema_fields:
            try:    row[field.name] = field.cast_value(row.get(field.name))
            except CastError as e:
                if not on_error(resource['name'], row, i, e, field): okay = False
        if okay: yield row

`Live.Py.loop_schema_validator` is this loop, re-translated on every run.  `Tie_vloop`: for every cast function and
every handler (a function of the row, the row index and the field that answers keep / drop and may hand back an updated
row — what `clear` does), the translated loop yields what the recursion `vLoop` yields: per row, the fields in schema order,
a cast value stored or the handler asked; the row emitted iff every answer was truthy; the index counts all incoming rows.
-/

namespace Df.Tie
open Df Df.Py

abbrev CastFn := PV → PV → Except Err PV            -- field, value ↦ cast value | CastError (`.user "CastError"`) | other error
abbrev Handler := PV → Nat → PV → Except Err (Bool × PV)   -- row, index, field ↦ (keep?, row as the handler left it)

def excPV : PV := .opaque "exception" "CastError"

/-- the external world of the loop: `field.cast_value(v)` and `on_error(name, row, i, e, field)` -/
def extV (cast : CastFn) (H : Handler) : Ext := fun f args =>
  match f, args with
  | ".cast_value", [fld, v] => cast fld v
  | "on_error", [nm, row, .int i, e, fld] =>
    (H row i.toNat fld).map (fun r => .tuple [.str "__wb__", .bool r.1, .list [nm, r.2, .int i, e, fld]])
  | _, _ => .error (.missingExt f)

/-- `row[field.name] = field.cast_value(row.get(field.name))` -/
def tryBody (cast : CastFn) (row field : PV) : Except Err PV := do
  let nm ← opAttr [field, .str "name"]
  let nm2 ← opAttr [field, .str "name"]
  let old ← opGet [row, nm2]
  let v ← cast field old
  mutate "setitem" row [nm, v]

def vField (cast : CastFn) (H : Handler) (res : PV) (i : Nat) (acc : PV × Bool) (field : PV) : Except Err (PV × Bool) :=
  match tryBody cast acc.1 field with
  | .ok row' => .ok (row', acc.2)
  | .error (.user tag) =>
    if tag = "CastError" then do
      let _ ← opGetitem [res, .str "name"]
      let r ← H acc.1 i field
      .ok (r.2, if r.1 then acc.2 else false)
    else .error (.user tag)
  | .error e => .error e

def vFields (cast : CastFn) (H : Handler) (res : PV) (i : Nat) : PV × Bool → List PV → Except Err (PV × Bool)
  | acc, [] => .ok acc
  | acc, f :: fs => do
    let acc' ← vField cast H res i acc f
    vFields cast H res i acc' fs

/-- the generator, materialised: rows are enumerated from `i` -/
def vLoop (cast : CastFn) (H : Handler) (res : PV) (fields : List PV) : Nat → List PV → Except Err (List PV)
  | _, [] => .ok []
  | i, row :: rest => do
    let r ← vFields cast H res i (row, true) fields
    let tail ← vLoop cast H res fields (i + 1) rest
    pure (if r.2 then r.1 :: tail else tail)

def tryStmt : S :=
  .tryExcept (.mut "row" "setitem" (.cons (.call .attr (.cons (.var "field") (.cons (.const (.str "name")) .nil)))
      (.cons (.call (.ext ".cast_value") (.cons (.var "field") (.cons (.call .get (.cons (.var "row")
        (.cons (.call .attr (.cons (.var "field") (.cons (.const (.str "name")) .nil))) .nil))) .nil))) .nil)))
    "CastError" "e"
    (.seq (.extCall "$call1" "on_error" (.cons (.call .getitem (.cons (.var "resource") (.cons (.const (.str "name")) .nil)))
        (.cons (.var "row") (.cons (.var "i") (.cons (.var "e") (.cons (.var "field") .nil))))))
      (.ite (.not (.var "$call1")) (.assign "okay" (.const (.bool false))) .skip))

def VEnv (fields : List PV) (row : PV) (okay : Bool) (i : Nat) (res : PV) (env : Env) : Prop :=
  env.lookup "row" = some row ∧ env.lookup "okay" = some (.bool okay) ∧ env.lookup "i" = some (.int i)
    ∧ env.lookup "resource" = some res ∧ env.lookup "schema_fields" = some (.list fields)

/-- body and handler of the `try`, read off the term itself so that they cannot drift from it -/
def tryParts : S → S × S
  | .tryExcept b _ _ h => (b, h)
  | s => (s, s)

def mutStmt : S := (tryParts tryStmt).1
def handlerStmt : S := (tryParts tryStmt).2

theorem mut_eval (cast : CastFn) (H : Handler) (row f : PV) (env : Env) (out : List PV)
    (hrow : env.lookup "row" = some row) :
    exec (extV cast H) mutStmt { env := ("field", f) :: env, out := out }
      = (tryBody cast row f).map (fun row' => (Ctl.next, { env := ("row", row') :: ("field", f) :: env, out := out })) := by
  unfold mutStmt tryBody
  simp only [tryParts, tryStmt]
  simp only [exec, evalE, evalArgs, applyFn, builtinOp, Env.get, Env.set, lookup_cons, String.reduceEq, ↓reduceIte, bind, Except.bind,
    hrow]
  cases opAttr [f, PV.str "name"] with
  | error e => rfl
  | ok nm =>
    simp only [Except.map]
    cases opGet [row, nm] with
    | error e => rfl
    | ok old =>
      simp only []
      rw [extV]
      cases cast f old <;> rfl

/-- the environment the handler leaves: the arguments written back, the answer, `okay` cleared on "drop" -/
def handlerEnv (f : PV) (i : Nat) (env : Env) (r : Bool × PV) : Env :=
  let e := ("$call1", .bool r.1) :: ("field", f) :: ("e", excPV) :: ("i", .int i) :: ("row", r.2) :: ("e", excPV) :: ("field", f) :: env
  if r.1 then e else ("okay", .bool false) :: e

theorem handler_eval (cast : CastFn) (H : Handler) (fields : List PV) (res row : PV) (okay : Bool) (i : Nat) (env : Env) (out : List PV)
    (f : PV) (h : VEnv fields row okay i res env) :
    exec (extV cast H) handlerStmt { env := ("e", excPV) :: ("field", f) :: env, out := out }
      = (opGetitem [res, .str "name"]).bind fun _ => (H row i f).map fun r => (Ctl.next, { env := handlerEnv f i env r, out := out }) := by
  obtain ⟨hrow, -, hi, hres, -⟩ := h
  unfold handlerStmt
  simp only [tryParts, tryStmt]
  simp only [exec, evalE, evalArgs, applyFn, builtinOp, Env.get, Env.set, lookup_cons, String.reduceEq, ↓reduceIte, bind, Except.bind,
    hrow, hi, hres]
  cases opGetitem [res, PV.str "name"] with
  | error e => rfl
  | ok rn =>
    simp only []
    rw [extV]
    simp only [Int.toNat_natCast]
    cases H row i f with
    | error e => rfl
    | ok r => cases hr : r.1 <;>
      simp [Except.map, applyWriteBack, argNames, writeBack, Env.set, handlerEnv, hr]

theorem try_step (cast : CastFn) (H : Handler) (fields : List PV) (res row : PV) (okay : Bool) (i : Nat) (env : Env) (out : List PV) (f : PV)
    (h : VEnv fields row okay i res env) :
    Sim Eq (fun p r => r.1 = .next ∧ r.2.out = out ∧ VEnv fields p.1 p.2 i res r.2.env) (vField cast H res i (row, okay) f)
      (exec (extV cast H) tryStmt { env := ("field", f) :: env, out := out }) := by
  rw [show tryStmt = .tryExcept mutStmt "CastError" "e" handlerStmt from rfl, exec, mut_eval cast H row f env out h.1, vField]
  cases tryBody cast row f with
  | ok row' =>
    obtain ⟨-, hokay, hi, hres, hsf⟩ := h
    exact Sim.ok ⟨rfl, rfl, by simp [VEnv, lookup_cons, hokay, hi, hres, hsf]⟩
  | error err =>
    cases err with
    | user tag =>
      by_cases htag : tag = "CastError"
      · subst htag
        simp only [Except.map, if_true, Env.set]
        rw [show PV.opaque "exception" "CastError" = excPV from rfl, handler_eval cast H fields res row okay i env out f h]
        cases opGetitem [res, PV.str "name"] with
        | error e => exact Sim.error rfl
        | ok rn =>
          cases H row i f with
          | error e => exact Sim.error rfl
          | ok r =>
            obtain ⟨-, hokay, -, hres, hsf⟩ := h
            exact Sim.ok ⟨rfl, rfl, by cases hr : r.1 <;> simp [VEnv, handlerEnv, hr, lookup_cons, hokay, hres, hsf]⟩
      · simp only [Except.map, htag, if_false]; exact Sim.error rfl
    | _ => exact Sim.error rfl

theorem vFields_eq (cast : CastFn) (H : Handler) (res : PV) (i : Nat) (acc : PV × Bool) (fs : List PV) :
    vFields cast H res i acc fs = fs.foldlM (vField cast H res i) acc := by
  induction fs generalizing acc with
  | nil => rfl
  | cons f fs ih => simp only [vFields, List.foldlM_cons, ih]

theorem fields_loop (cast : CastFn) (H : Handler) (fields : List PV) (res : PV) (i : Nat) (fs : List PV) (row : PV) (okay : Bool)
    (env : Env) (out : List PV) (h : VEnv fields row okay i res env) :
    Sim Eq (fun p r => r.1 = .next ∧ r.2.out = out ∧ VEnv fields p.1 p.2 i res r.2.env) (vFields cast H res i (row, okay) fs)
      (loopFor (exec (extV cast H) tryStmt) (bind1 "field") fs { env := env, out := out }) := by
  have := loopFor_foldlM (body := exec (extV cast H) tryStmt) (bnd := bind1 "field") (Q := Eq) id
    (fun _ p st => st.out = out ∧ VEnv fields p.1 p.2 i res st.env) (vField cast H res i)
    (by rintro f - p st ⟨rfl, hv⟩
        exact (try_step cast H fields res p.1 p.2 i st.env st.out f hv).imp (fun _ _ h => h) fun _ _ h => ⟨.inl h.1, h.2⟩)
    fs (row, okay) ⟨env, out⟩ ⟨rfl, h⟩
  rwa [List.map_id, ← vFields_eq] at this

def rowBody : S :=
  .seq (.assign "field" (.const .none)) (.seq (.assign "okay" (.const (.bool true)))
    (.seq (.forIn "field" (.var "schema_fields") tryStmt) (.ite (.var "okay") (.yield (.var "row")) .skip)))

theorem loop_body_is : Live.Py.loop_schema_validator.body =
    .forIn2 "i" "row" (.call .enumerate (.cons (.var "iterator") .nil)) rowBody := by rfl

def BaseEnv (fields : List PV) (res : PV) (env : Env) : Prop :=
  env.lookup "resource" = some res ∧ env.lookup "schema_fields" = some (.list fields)

theorem row_step (cast : CastFn) (H : Handler) (fields : List PV) (res : PV) (i : Nat) (row : PV) (env : Env) (out : List PV)
    (h : BaseEnv fields res env) :
    (∃ e, exec (extV cast H) rowBody { env := ("row", row) :: ("i", .int i) :: env, out := out } = .error e
          ∧ vFields cast H res i (row, true) fields = .error e)
    ∨ (∃ env' row' okay', exec (extV cast H) rowBody { env := ("row", row) :: ("i", .int i) :: env, out := out }
            = .ok (.next, { env := env', out := if okay' then out ++ [row'] else out })
          ∧ vFields cast H res i (row, true) fields = .ok (row', okay') ∧ BaseEnv fields res env') := by
  obtain ⟨hres, hsf⟩ := h
  have hl := fields_loop cast H fields res i fields row true
    (("okay", .bool true) :: ("field", .none) :: ("row", row) :: ("i", .int i) :: env) out (by simp [VEnv, lookup_cons, hres, hsf])
  unfold rowBody
  simp only [exec, evalE, Env.set, Env.get, lookup_cons, String.reduceEq, ↓reduceIte, hsf, iterLazy_list, bind, Except.bind]
  cases hvf : vFields cast H res i (row, true) fields with
  | error e => rw [hvf] at hl; left; exact ⟨e, by rw [hl.of_error], rfl⟩
  | ok p =>
    rw [hvf] at hl
    obtain ⟨⟨c, st'⟩, hy, hc, ho, hrow, hokay, -, h4, h5⟩ := hl.of_ok
    simp only [] at hc ho hrow hokay h4 h5
    subst hc ho
    right
    refine ⟨st'.env, p.1, p.2, ?_, rfl, h4, h5⟩
    rw [hy]
    cases hp : p.2 <;> simp [hp, hrow, hokay]

theorem rows_loop (cast : CastFn) (H : Handler) (fields : List PV) (res : PV) (k : Nat) (rows : List PV) (st : St)
    (h : BaseEnv fields res st.env) :
    (loopFor (exec (extV cast H) rowBody) (bind2 "i" "row") (enumFrom k rows) st).map (fun r => r.2.out)
      = (vLoop cast H res fields k rows).map (fun l => st.out ++ l) := by
  induction rows generalizing k st with
  | nil => simp [enumFrom, loopFor, vLoop, Except.map]
  | cons row rest ih =>
    simp only [enumFrom, loopFor, bind2, Env.set, bind, Except.bind, vLoop]
    rcases row_step cast H fields res k row st.env st.out h with ⟨e, he, hv⟩ | ⟨env1, row1, okay1, he, hv, hinv⟩
    · simp [he, hv, Except.map]
    · simp only [he, hv]
      rw [ih (k + 1) _ hinv]
      cases vLoop cast H res fields (k + 1) rest with
      | error e => simp [Except.map]
      | ok tail => cases okay1 <;> simp [Except.map, pure, Except.pure]

/-- **the translated loop of `schema_validator` is the recursion `vLoop`** — for every cast function, every
handler (may answer keep / drop, may hand back an updated row, may raise), every list of checked fields and rows -/
theorem Tie_vloop (cast : CastFn) (H : Handler) (fields : List PV) (res : PV) (rows : List PV) :
    (exec (extV cast H) Live.Py.loop_schema_validator.body
        { env := [("iterator", .list rows), ("schema_fields", .list fields), ("resource", res)], out := [] }).map (fun r => r.2.out)
      = vLoop cast H res fields 0 rows := by
  rw [loop_body_is, exec, show evalE (extV cast H) _ (.call .enumerate _) = .ok (.list (enumFrom 0 rows)) by simp [pyl, opEnumerate]]
  simp only [iterLazy_list, bind, Except.bind]
  rw [rows_loop cast H fields res 0 rows _ (by simp [BaseEnv, lookup_cons])]
  cases vLoop cast H res fields 0 rows <;> simp [Except.map]

end Df.Tie
