import DfProps.C02b
import DfModel.Join
import Generated.Live

/-!
# C02 — the type `join` declares for an aggregated field fits what the aggregate returns

`Df.Live.joinAggregators` is regenerated from `dataflows/processors/join.py` (the `AGGREGATORS`
table: name, dataType, copyProperties) on every run, so this theorem is checked against the table as it
stands in the code: a `dataType` that does not fit the aggregate's result breaks the proof.

For a source column of integers: every aggregate's result (`aggSpec`, proved equal to the
implementation's fold in C11) is valid for the type the target schema declares — the table's
`dataType`, or the source field's type when the table says `None`.
-/

namespace Df.Join
open Df

def aggName : Agg → String
  | .sum => "sum" | .avg => "avg" | .median => "median" | .max => "max" | .min => "min"
  | .first => "first" | .last => "last" | .count => "count" | .any => "any" | .set => "set"
  | .array => "array" | .counters => "counters"

/-- `process_target_resource`: the aggregator's dataType, or the source field's type when it is None -/
def declType (a : Agg) (srcType : String) : String :=
  match Df.Live.joinAggregators.find? (fun e => e.1 == aggName a) with
  | some (_, some t, _) => t
  | _ => srcType

def AVOk (V : Valid) (t : String) : AV → Prop
  | .v x => x = .null ∨ V t x = true
  | .quot _ _ => t = "number"
  | .half _ _ => t = "number"
  | .list _ => t = "array"
  | .counts _ => t = "array"

theorem mem_sortV : ∀ (l : List Val) (y : Val), y ∈ sortV l → y ∈ l :=
  mem_of_mem_foldr_insert (fun _ => rfl) fun x a as => by simp only [insertV]; split <;> simp

theorem foldl_pick_mem {α} (f : α → α → α) (hf : ∀ c n, f c n = c ∨ f c n = n) :
    ∀ (l : List α) (x : α), l.foldl f x ∈ x :: l
  | [], x => List.mem_cons_self
  | a :: as, x => by
    rw [List.foldl_cons]
    rcases List.mem_cons.mp (foldl_pick_mem f hf as (f x a)) with h | h
    · rw [h]; rcases hf x a with e | e <;> simp [e]
    · exact List.mem_cons_of_mem _ (List.mem_cons_of_mem _ h)

/-- the declared types of the live table for an integer source column -/
theorem declType_int (a : Agg) : declType a "integer" = match a with
    | .avg | .median => "number"
    | .set | .array | .counters => "array"
    | _ => "integer" := by
  cases a <;> decide

/-- **join: the declared type of an aggregated integer column accepts the aggregate**, for every aggregator
of the (live) table, every list of matching values and every number of matching rows. -/
theorem C02_join_declared_type_int (V : Valid) (hV : NumV V) (a : Agg) (vals : List Val) (nrows : Nat)
    (hvals : ∀ v ∈ vals, ∃ i, v = Val.int i) :
    AVOk V (declType a "integer") (aggSpec a vals nrows) := by
  have hint : ∀ v ∈ vals, V "integer" v = true := fun v hv => by
    obtain ⟨i, rfl⟩ := hvals v hv; exact hV.int_int i
  -- `max`, `min`, `first`, `last`, `any` return an element of the column, if any
  have pick : ∀ o : Option Val, (∀ x, o = some x → x ∈ vals) → AVOk V "integer" (o.elim (.v .null) .v) := by
    intro o ho
    cases o with
    | none => exact Or.inl rfl
    | some x => exact Or.inr (hint x (ho x rfl))
  rw [declType_int]
  cases a with
  | sum =>
    simp only [aggSpec]
    split
    · exact Or.inl rfl
    · exact Or.inr (hint _ List.mem_cons_self)
    · exact Or.inr (hV.int_int _)
  | avg =>
    simp only [aggSpec]
    split
    · exact Or.inl rfl
    · rfl
  | median =>
    simp only [aggSpec, medianOf]
    split
    · exact Or.inl rfl
    · split
      · split
        · rfl
        · exact Or.inl rfl
      · cases hm : (sortV vals)[(sortV vals).length / 2]? with
        | none => exact Or.inl rfl
        | some x =>
          obtain ⟨i, rfl⟩ := hvals x (mem_sortV vals x (List.mem_of_getElem? hm))
          exact Or.inr (hV.num_int i)
  | max | min =>
    refine pick _ fun x hx => ?_
    cases vals with
    | nil => cases hx
    | cons y ys => cases hx; exact foldl_pick_mem _ (fun c n => by split <;> simp) ys y
  | first => exact pick _ fun _ => List.mem_of_head?
  | last | any => exact pick _ fun _ => List.mem_of_getLast?
  | count =>
    simp only [aggSpec]
    split
    · exact Or.inl rfl
    · exact Or.inr (hV.int_int _)
  | set | array | counters => rfl

end Df.Join
