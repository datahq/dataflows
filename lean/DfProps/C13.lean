import DfModel.Load
import DfProps.Util

/-!
# C13 — load reproduces the source table faithfully (wrappers and header handling)
-/

namespace Df.Load

/-! ## limit_rows -/

theorem limitLoop_take {α} (rows : List α) : ∀ (k count : Nat),
    limitLoop (count + k + 1) count rows = rows.take (k + 1) := by
  induction rows with
  | nil => intros; rfl
  | cons r rs ih =>
    intro k count
    rw [limitLoop]
    cases k with
    | zero => rw [if_pos (Nat.le_refl _)]; rfl
    | succ k =>
      rw [if_neg (by omega), Nat.add_right_comm count]
      exact congrArg (r :: ·) (ih k (count + 1))

/-- **limit_rows yields exactly the first n rows** — for every n (zero included) and every table. -/
theorem C13_limit {α} (n : Nat) (rows : List α) : limiter n rows = rows.take n := by
  cases n with
  | zero => rfl
  | succ k => exact (Nat.zero_add k ▸ limitLoop_take rows k 0 :)

/-! ## strip -/

theorem dropWs_eq_dropWhile (W : Nat → Bool) : ∀ v, dropWs W v = v.dropWhile W
  | [] => rfl
  | c :: cs => by rw [dropWs, List.dropWhile_cons, dropWs_eq_dropWhile W cs]

theorem dropWs_suffix (W : Nat → Bool) (v : List Nat) : ∃ pre, v = pre ++ dropWs W v ∧ ∀ c ∈ pre, W c = true :=
  ⟨v.takeWhile W, by rw [dropWs_eq_dropWhile, List.takeWhile_append_dropWhile],
    List.all_eq_true.mp List.all_takeWhile⟩

/-- **Stripping removes only surrounding whitespace**: the cell is `pre ++ stripped ++ suf` with
`pre` and `suf` made of whitespace; nothing inside is touched. -/
theorem C13_strip_only_whitespace (W : Nat → Bool) (v : List Nat) :
    ∃ pre suf, v = pre ++ strip W v ++ suf ∧ (∀ c ∈ pre, W c = true) ∧ (∀ c ∈ suf, W c = true) := by
  obtain ⟨pre, h1, h2⟩ := dropWs_suffix W v
  obtain ⟨suf, h3, h4⟩ := dropWs_suffix W (dropWs W v).reverse
  refine ⟨pre, suf.reverse, ?_, h2, fun c hc => h4 c (List.mem_reverse.mp hc)⟩
  rw [List.append_assoc, strip, ← List.reverse_append, ← h3, List.reverse_reverse, ← h1]

theorem C13_stripCell_cases (T W : Nat → Bool) (v : List Nat) : stripCell T W v = v ∨ stripCell T W v = strip W v := by
  unfold stripCell
  split
  · split
    · exact Or.inr rfl
    · exact Or.inl rfl
  · exact Or.inl rfl

/-- a cell without surrounding whitespace is left alone -/
theorem dropWs_id (W : Nat → Bool) (c : Nat) (cs : List Nat) (h : W c = false) : dropWs W (c :: cs) = c :: cs := by
  simp [dropWs, h]

/-! ## header de-duplication -/

theorem numbered_spec (K : String → String) (fmt : String → Nat → String) :
    ∀ (fuel : Nat) (header key : String) (st : St) (g : String) (st' : St),
      numbered K fmt fuel header key st = some (g, st') →
      K g ∉ st.taken ∧ st'.taken = K g :: st.taken ∧ st'.out = st.out ∧ st'.keys = st.keys := by
  intro fuel
  induction fuel with
  | zero => intro header key st g st' h; simp [numbered] at h
  | succ fuel ih =>
    intro header key st g st' h
    simp only [numbered] at h
    split at h
    · exact (ih header key _ g st' h :)
    · rename_i hnc
      simp at h
      obtain ⟨rfl, rfl⟩ := h
      exact ⟨by simpa using hnc, rfl, rfl, rfl⟩

theorem nodup_set {α} : ∀ (l : List α) (i : Nat) (a : α), l.Nodup → a ∉ l → (l.set i a).Nodup
  | [], _, _, h, _ => h
  | b :: l, 0, a, h, ha => by
    rw [List.nodup_cons] at h
    exact List.nodup_cons.mpr ⟨fun hm => ha (List.mem_cons_of_mem _ hm), h.2⟩
  | b :: l, i + 1, a, h, ha => by
    rw [List.nodup_cons] at h
    refine List.nodup_cons.mpr ⟨fun hm => ?_, nodup_set l i a h.2 fun hm => ha (List.mem_cons_of_mem _ hm)⟩
    rcases List.mem_or_eq_of_mem_set hm with hm | rfl
    · exact h.1 hm
    · exact ha List.mem_cons_self

/-- The invariant of the loop over the headers after `n` of them: the names given out are
distinct under `K`; they and all original names are taken; and a name given out that is also an
original name stands for a header seen already. -/
structure HInv (K : String → String) (orig : List String) (n : Nat) (out keys taken : List String) : Prop where
  len : out.length = n
  nodup : (out.map K).Nodup
  outTaken : ∀ x ∈ out, K x ∈ taken
  origTaken : ∀ k ∈ orig, k ∈ taken
  outKey : ∀ x ∈ out, K x ∈ orig → K x ∈ keys

variable {K : String → String} {orig : List String} {n : Nat} {out keys taken : List String}

theorem HInv.set (inv : HInv K orig n out keys taken) (i : Nat) (g : String) (hg : K g ∉ taken) :
    HInv K orig n (out.set i g) keys (K g :: taken) where
  len := by rw [List.length_set, inv.len]
  nodup := by
    rw [List.map_set]
    exact nodup_set _ _ _ inv.nodup fun hm =>
      have ⟨x, hx, he⟩ := List.mem_map.mp hm
      hg (he ▸ inv.outTaken x hx)
  outTaken x hx := by
    rcases List.mem_or_eq_of_mem_set hx with hx | rfl
    · exact List.mem_cons_of_mem _ (inv.outTaken x hx)
    · exact List.mem_cons_self
  origTaken k hk := List.mem_cons_of_mem _ (inv.origTaken k hk)
  outKey x hx ho := by
    rcases List.mem_or_eq_of_mem_set hx with hx | rfl
    · exact inv.outKey x hx ho
    · exact absurd (inv.origTaken _ ho) hg

theorem HInv.append (inv : HInv K orig n out keys taken) (e k : String) (taken' : List String)
    (hsub : ∀ t ∈ taken, t ∈ taken') (he : K e ∈ taken') (hnew : ∀ x ∈ out, K x ≠ K e)
    (hk : K e ∈ orig → K e = k) :
    HInv K orig (n + 1) (out ++ [e]) (keys ++ [k]) taken' where
  len := by rw [List.length_append, inv.len]; rfl
  nodup := by
    rw [List.map_append]
    exact nodup_concat inv.nodup fun hm => let ⟨x, hx, e⟩ := List.mem_map.mp hm; hnew x hx e
  outTaken x hx := by
    rcases List.mem_append.mp hx with hx | hx
    · exact hsub _ (inv.outTaken x hx)
    · rw [List.mem_singleton.mp hx]; exact he
  origTaken k hk := hsub _ (inv.origTaken k hk)
  outKey x hx ho := by
    rcases List.mem_append.mp hx with hx | hx
    · exact List.mem_append_left _ (inv.outKey x hx ho)
    · rw [List.mem_singleton.mp hx] at ho ⊢
      exact List.mem_append_right _ (List.mem_singleton.mpr (hk ho))


theorem hinv_step (fmt : String → Nat → String) (fuel : Nat) (st st' : St) (header : String)
    (hk : K header ∈ orig) (inv : HInv K orig n st.out st.keys st.taken)
    (h : stepHeader K fmt fuel st header = some st') : HInv K orig (n + 1) st'.out st'.keys st'.taken := by
  unfold stepHeader at h
  dsimp only at h
  split at h
  · split at h
    · exact nomatch h
    · rename_i st1 hst1
      -- the optional renaming of the first occurrence keeps the invariant
      have inv1 : HInv K orig n st1.out st1.keys st1.taken := by
        split at hst1
        · split at hst1
          · rename_i g st2 hnum
            obtain ⟨hg, ht, ho, hks⟩ := numbered_spec K fmt fuel _ _ st g st2 hnum
            rw [← Option.some.inj hst1, ho, hks, ht]
            exact inv.set _ g hg
          · exact nomatch hst1
        · rw [← Option.some.inj hst1]; exact inv
      split at h
      · rename_i g st2 hnum
        obtain ⟨hg, ht, ho, hks⟩ := numbered_spec K fmt fuel _ _ st1 g st2 hnum
        rw [← Option.some.inj h, ho, hks, ht]
        exact inv1.append g _ _ (fun _ => List.mem_cons_of_mem _) List.mem_cons_self
          (fun x hx he => hg (he ▸ inv1.outTaken x hx)) fun ho => absurd (inv1.origTaken _ ho) hg
      · exact nomatch h
  · rename_i hc
    rw [← Option.some.inj h]
    exact inv.append header _ _ (fun _ ht => ht) (inv.origTaken _ hk)
      (fun x hx he => hc (List.contains_iff_mem.mpr (he ▸ inv.outKey x hx (he ▸ hk)))) fun _ => rfl

/-- **De-duplicated headers are unique** (compared case-sensitively or not, through `K`), for
every list of headers — including headers that already look like generated names — and every
name format; and there is one name per column. -/
theorem C13_dedup_unique (K : String → String) (fmt : String → Nat → String) (headers out : List String)
    (h : dedupHeaders K fmt headers = some out) : (out.map K).Nodup ∧ out.length = headers.length := by
  obtain ⟨st, hst, rfl⟩ := Option.map_eq_some_iff.mp h
  have key : ∀ (hs : List String) (n : Nat) (st0 st1 : St), (∀ x ∈ hs, K x ∈ headers.map K) →
      HInv K (headers.map K) n st0.out st0.keys st0.taken →
      hs.foldlM (stepHeader K fmt (2 * headers.length + 2)) st0 = some st1 →
      HInv K (headers.map K) (n + hs.length) st1.out st1.keys st1.taken := by
    intro hs
    induction hs with
    | nil => intro n st0 st1 _ inv h; rw [← Option.some.inj h]; exact inv
    | cons x xs ih =>
      intro n st0 st1 hmem inv h
      rw [List.foldlM_cons] at h
      obtain ⟨st2, hstep, h⟩ := Option.bind_eq_some_iff.mp h
      have := ih (n + 1) st2 st1 (fun y hy => hmem y (List.mem_cons_of_mem _ hy))
        (hinv_step fmt _ st0 st2 x (hmem x List.mem_cons_self) inv hstep) h
      rwa [List.length_cons, Nat.add_comm xs.length, ← Nat.add_assoc]
  have inv := key headers 0 ⟨[], [], headers.map K, []⟩ st (fun x hx => List.mem_map_of_mem hx)
    ⟨rfl, List.nodup_nil, nofun, fun _ hk => hk, nofun⟩ hst
  exact ⟨inv.nodup, inv.len.trans (Nat.zero_add _)⟩

/-- a header that already looks like a generated name, next to duplicates: the names given out are still
distinct (the defect repaired in /repo) -/
example : dedupHeaders id (fun h n => h ++ " (" ++ toString n ++ ")") ["a", "a", "a (1)"] = some ["a (2)", "a (3)", "a (1)"] := by
  decide +kernel

example : limiter 0 [1, 2, 3] = [] ∧ limiter 2 [1, 2, 3] = [1, 2] := by decide

end Df.Load
